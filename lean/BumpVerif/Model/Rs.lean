import BumpVerif.Model.Arena
/-!
# Primitives of the function-body translator (`tools/rs2lean.py`)

The generated files `Gen/Fn*.lean` are the crate's function bodies, translated statement by
statement.  What the translation *assumes* is collected here: the meaning of the machine
operations and of the handful of library / pointer idioms those bodies use.  Everything else
(control flow, early returns, `?`, assertions, the order of checks) is the source's.

`usize` and raw pointers are naturals below `2^64`.
-/
namespace Bump.Rs
open Gen

/-- `core::alloc::Layout` (a value; validity is what `from_size_align` checks) -/
structure Layout where
  size : Nat
  align : Nat
  deriving Repr, DecidableEq

/-- `a & b` -/
def band (a b : Nat) : Nat := a &&& b
/-- `a | b` -/
def bor (a b : Nat) : Nat := a ||| b
/-- `!a` on a 64-bit word -/
def bnot (a : Nat) : Nat := USIZE_MAX - a
/-- `usize::wrapping_add` -/
def wadd (a b : Nat) : Nat := (a + b) % USIZE
/-- `usize::saturating_add` -/
def sadd (a b : Nat) : Nat := min (a + b) USIZE_MAX
/-- `usize::abs_diff` -/
def absDiff (a b : Nat) : Nat := if a ≤ b then b - a else a - b
/-- `usize::checked_sub` -/
def checkedSub (a b : Nat) : Option Nat := if b ≤ a then some (a - b) else none

/-- sequencing of pure partial computations -/
@[inline] def bindP {α β : Type} (x : Outcome α) (f : α → Outcome β) : Outcome β :=
  match x with
  | .ok a => f a
  | .err => .err
  | .panic => .panic
  | .bad w => .bad w
  | .envBad => .envBad

/-- `usize::next_power_of_two`: overflow panics under debug assertions and wraps to 0 in
release; either way the source's own reasoning would be wrong, so it is `bad` -/
def next_power_of_two (n : Nat) : Outcome Nat :=
  if nextPow2 n < USIZE then .ok (nextPow2 n) else .bad "next_power_of_two overflows"

/-- `Layout::from_size_align(size, align).ok()` -/
def layoutFromSizeAlign (size align : Nat) : Option Layout :=
  if validLayout size align then some ⟨size, align⟩ else none

/-- a `Result<T, AllocErr>`-returning function seen as a value (`Err` ↦ `none`) -/
def reify {α : Type} : Outcome α → Outcome (Option α)
  | .ok a => .ok (some a)
  | .err => .ok none
  | .panic => .panic
  | .bad w => .bad w
  | .envBad => .envBad

def reifyS {α : Type} (f : St → St × Outcome α) (s : St) : St × Outcome (Option α) :=
  let r := f s
  (r.1, reify r.2)

/-- `footer.ptr.set(p)` for a chunk footer `c`: the translated functions only ever store the
finger of the arena's current chunk, which is a real (non-static) chunk on this path -/
def chunk_ptr_set (_E : Nat) (c : Chunk) (p : Nat) (s : St) : St × Outcome Unit :=
  match s.a.chunks with
  | h :: rest =>
    if h.footer == c.footer then ({ s with a := { s.a with chunks := { h with ptr := p } :: rest } }, .ok ())
    else (s, .bad "store to the finger of a chunk that is not current")
  | [] => (s, .bad "store to the finger of the static empty chunk")

/-- the chunk after the one whose footer address is `f` in a `prev`-linked chain (newest first), else `dflt` -/
def prevIn (f : Nat) (dflt : Chunk) : List Chunk → Chunk
  | [] => dflt
  | h :: rest => if h.footer == f then rest.headD dflt else prevIn f dflt rest

/-- `footer.prev.get()` for a chunk footer `c` of the arena: the next older chunk, or the static empty chunk -/
def chunk_prev (E : Nat) (s : St) (c : Chunk) : Chunk := prevIn c.footer (emptyChunk E) s.a.chunks

/-- `cur.prev.replace(EMPTY_CHUNK.get())`: cut the chain behind the current chunk and hand back what was
cut off (the older chunks, newest first).  Only this use is translated: `c` must be the current chunk and the
new link the static empty chunk. -/
def chunk_prev_replace (E : Nat) (c new : Chunk) (s : St) : St × Outcome (List Chunk) :=
  match s.a.chunks with
  | h :: rest =>
    if h.footer == c.footer && new.footer == (emptyChunk E).footer then
      ({ s with a := { s.a with chunks := [h] } }, .ok rest)
    else (s, .bad "prev.replace: not the current chunk / not the static empty chunk")
  | [] => (s, .bad "prev.replace on the static empty chunk")

/-- the footer a chain pointer points at: its newest chunk, or the static empty chunk -/
def chain_head (E : Nat) (chain : List Chunk) : Chunk := chain.headD (emptyChunk E)

/-- the global allocator's `dealloc(ptr, layout)` -/
def global_dealloc (ptr : Nat) (l : Layout) (s : St) : St × Outcome Unit :=
  ({ s with evs := s.evs ++ [.free ptr l.size l.align] }, .ok ())

/-- `dealloc_chunk_list(chain)`: every chunk of the chain goes back to the global allocator with the layout it was
obtained with, newest first (the specification `reset`'s translation uses; the `while` loop itself is translated in
Gen/FnChunks.lean and proved equal to this in Props/GenFnChunks.lean) -/
def dealloc_chunk_list (chain : List Chunk) (s : St) : St × Outcome Unit :=
  ({ s with evs := s.evs ++ chain.map freeEv }, .ok ())

/-- `self.current_chunk_footer.set(c)`: `c` (whose `prev` link is the chunk that was current) becomes the current
chunk -/
def set_current_footer (c : Chunk) (s : St) : St × Outcome Unit :=
  ({ s with a := { s.a with chunks := c :: s.a.chunks } }, .ok ())

/-- `footer.allocated_bytes = n` for the current chunk -/
def chunk_ab_set (_E : Nat) (c : Chunk) (n : Nat) (s : St) : St × Outcome Unit :=
  match s.a.chunks with
  | h :: rest =>
    if h.footer == c.footer then ({ s with a := { s.a with chunks := { h with ab := n } :: rest } }, .ok ())
    else (s, .bad "store to allocated_bytes of a chunk that is not current")
  | [] => (s, .bad "store to allocated_bytes of the static empty chunk")

/-- `self.allocation_limit.set(l)` -/
def set_limit (l : Option Nat) (s : St) : St × Outcome Unit :=
  ({ s with a := { s.a with limit := l } }, .ok ())

/-- `slice[..].fill(0)` over `n` bytes at `dst` -/
def zero_fill (dst n : Nat) (s : St) : St × Outcome Unit :=
  ({ s with mem := s.mem ++ [.zero dst n] }, .ok ())

/-- the global allocator (`alloc::alloc(layout)`): the next answer of the environment; a null pointer is `0`.  An
answer that violates the allocator contract (`mallocOK`: non-null, aligned, inside the address space, disjoint from
everything the arena holds and from the static) is the environment's fault, not the crate's -/
def malloc (E : Nat) (l : Layout) (s : St) : St × Outcome Nat :=
  match s.malloc l.size l.align with
  | (s', none) => (s', .ok 0)
  | (s', some addr) => if !mallocOK E s.a.chunks l.size l.align addr then (s', .envBad) else (s', .ok addr)

/-- `Bump { current_chunk_footer: Cell::new(c), allocation_limit: Cell::new(l) }`: an arena whose chain starts at `c`
(the static empty chunk = no chunk at all) -/
def mkArena (E M : Nat) (c : Chunk) (l : Option Nat) : Arena :=
  ⟨M, if c.footer == (emptyChunk E).footer then [] else [c], l⟩

/-- `NonNull::new` -/
def nonNullNew (a : Nat) : Option Nat := if a = 0 then none else some a

/-- `ptr::copy_nonoverlapping(src, dst, n)` -/
def copy_nonoverlapping (src dst n : Nat) (s : St) : St × Outcome Unit :=
  if rangesOverlap src dst n then (s, .bad "copy_nonoverlapping on overlapping ranges")
  else ({ s with mem := s.mem ++ [.copyNonoverlapping src dst n] }, .ok ())

/-- `ptr::copy(src, dst, n)` -/
def copy (src dst n : Nat) (s : St) : St × Outcome Unit :=
  ({ s with mem := s.mem ++ [.copy src dst n] }, .ok ())

/-- `alloc_layout_slow` as its translated callers call it: the hand-written `allocSlow`, seen as a value (the body itself is
translated in Gen/FnSlow.lean and proved equal to this in Props/GenFnSlow.lean) -/
def alloc_layout_slow (E _M : Nat) (l : Layout) (s : St) : St × Outcome (Option Nat) :=
  reifyS (allocSlow E l.size l.align) s

end Bump.Rs
