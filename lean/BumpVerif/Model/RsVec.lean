import BumpVerif.Model.Rs
import BumpVerif.Model.RawVec
/-!
# Primitives of the function-body translator for `src/collections/raw_vec.rs`

`RawVec<T>` methods are translated with the element type as a configuration (`c.esz = size_of::<T>()`,
`c.eal = align_of::<T>()`) and the vector model `v : V.VS` as the threaded state (`self.cap` is `v.cap`).
The callers of `reserve_internal` (the realloc through the arena and the assignment of `ptr` / `cap`) reach the primitive
`RsV.reserve_internal`, which is the hand-written `V.reserveInternal`; the body is translated too (Gen/FnRawVec.lean) and
proved equal to it for `esz ≠ 0` in Props/GenFnRawVec.lean.
-/
namespace Bump.Rs

/-- `enum ReserveStrategy` -/
inductive Strategy where
  | exact
  | amortized
  deriving DecidableEq, Repr

/-- `enum Fallibility` -/
inductive Fallibility where
  | fallible
  | infallible
  deriving DecidableEq, Repr

/-- `Option::ok_or` / `Result::map_err(|_| e)` -/
def okOr {α ε : Type} : Option α → ε → Except ε α
  | some a, _ => .ok a
  | none, e => .error e

end Bump.Rs

namespace Bump.RsV
open Bump Bump.V

@[inline] def bindV {α β : Type} (x : VS × Outcome α) (f : VS → α → VS × Outcome β) : VS × Outcome β :=
  match x with
  | (v, .ok a) => f v a
  | (v, .err) => (v, .err)
  | (v, .panic) => (v, .panic)
  | (v, .bad w) => (v, .bad w)
  | (v, .envBad) => (v, .envBad)

@[inline] def pureV {α β : Type} (v : VS) (o : Outcome α) (f : VS → α → VS × Outcome β) : VS × Outcome β :=
  bindV (v, o) f

/-- `Layout::array::<T>(n)` (`Err` ↦ `none`) -/
def layoutArray (c : Cfg) (n : Nat) : Option Rs.Layout :=
  (arrayLayout c.esz c.eal n).map fun sz => ⟨sz, c.eal⟩

/-- whether the arena behind the vector serves a request of `bytes` bytes: an input of the run (`allocOk`, and the harness
allocator's limit) -/
def arena_serves (c : Cfg) (bytes : Nat) : Bool := c.allocOk && !decide (bytes > c.allocLimit)

/-- `self.a.realloc(ptr, old_layout, new_size)` / `Alloc::alloc(&mut self.a, new_layout)`: when the arena serves it, the buffer
now has `new_size / size_of::<T>()` slots, the first `min old new` carried over -/
def arena_realloc (c : Cfg) (newSize : Nat) (v : VS) : VS × Outcome (Option Unit) :=
  if arena_serves c newSize then ({ v with slots := resizeSlots v.slots (newSize / c.esz) }, .ok (some ()))
  else (v, .ok none)

/-- `Alloc::alloc(&mut a, layout)` / `a.alloc_zeroed(layout)` for a new vector: a buffer of `size / size_of::<T>()`
uninitialised slots when the arena serves the request -/
def arena_alloc_buf (c : Cfg) (size : Nat) : Option (List (Option Elem)) :=
  if arena_serves c size then some (List.replicate (size / c.esz) none) else none

/-- `self.a.dealloc(ptr, layout)`: nothing the vector model sees -/
def arena_dealloc (v : VS) : VS × Outcome Unit := (v, .ok ())

/-- `self.cap = n` -/
def set_cap (n : Nat) (v : VS) : VS × Outcome Unit := ({ v with cap := n }, .ok ())

/-- `ptr::write(self, RawVec::new_in(a))`: an unallocated vector in the same arena -/
def reset_new (v : VS) : VS × Outcome Unit := ({ v with cap := 0, slots := [] }, .ok ())

/-- `reserve_internal(used, extra, fallibility, strategy)`, hand model: an allocation error of the infallible
flavour is `handle_alloc_error` (a panic), every other error is returned -/
def reserve_internal (c : Cfg) (used extra : Nat) (f : Rs.Fallibility) (st : Rs.Strategy) (v : VS) :
    VS × Outcome (Except RErr Unit) :=
  match reserveInternal c v used extra (st == .exact) with
  | .ok v' => (v', .ok (.ok ()))
  | .error .allocErr => if f == .infallible then (v, .panic) else (v, .ok (.error .allocErr))
  | .error e => (v, .ok (.error e))

end Bump.RsV
