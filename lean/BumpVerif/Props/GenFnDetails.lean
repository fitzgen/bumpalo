import BumpVerif.Props.GenFnArith
import BumpVerif.Proofs.Sim
import BumpVerif.Gen.FnDetails
/-! # The translated chunk-sizing functions of `src/lib.rs` equal the hand-written model -/
namespace Bump
open Rs Gen

theorem p2_max {a b : Nat} (ha : P2 a) (hb : P2 b) : P2 (max a b) := by
  by_cases h : a ≤ b
  · rw [Nat.max_eq_right h]; exact hb
  · rw [Nat.max_eq_left (by omega)]; exact ha

theorem p2_chunk_align : P2 CHUNK_ALIGN := ⟨by decide, by decide⟩
theorem p2_page : P2 TYPICAL_PAGE_SIZE := ⟨by decide, by decide⟩

/-- the end of `newChunkMemoryDetails`, once the usable size `n2` is known -/
def detailsTail (A n2 : Nat) : Outcome Details :=
  if A % CHUNK_ALIGN ≠ 0 ∨ n2 % CHUNK_ALIGN ≠ 0 then .bad "details: alignment assertion" else
  match checkedAdd n2 FOOTER_SIZE with
  | none => .panic
  | some size => .ok ⟨n2, A, size⟩

theorem newChunkMemoryDetails_eq (M : Nat) (req : Option Nat) (sz al : Nat) :
    newChunkMemoryDetails M req sz al =
      match roundUpTo sz (max (max CHUNK_ALIGN M) al) with
      | none => .panic
      | some rs =>
        let n1 := max (req.getD DEFAULT_CHUNK_SIZE_WITHOUT_FOOTER) rs
        if n1 + OVERHEAD ≥ USIZE then .bad "details: unchecked add wraps" else
        match (if n1 < TYPICAL_PAGE_SIZE then some (nextPow2 (n1 + OVERHEAD) - OVERHEAD)
          else (roundUpTo (n1 + OVERHEAD) TYPICAL_PAGE_SIZE).map (· - OVERHEAD)) with
        | none => .err
        | some n2 => detailsTail (max (max CHUNK_ALIGN M) al) n2 := by
  unfold newChunkMemoryDetails detailsTail
  rfl

theorem detailsTail_size {A n2 : Nat} {d : Details} (h : detailsTail A n2 = .ok d) : d.size = d.nswf + FOOTER_SIZE := by
  unfold detailsTail checkedAdd at h
  split at h
  · cases h
  split at h
  · cases h
  · rename_i hh; split at hh
    · cases hh; cases h; rfl
    · cases hh

theorem details_size {M : Nat} {req : Option Nat} {sz al : Nat} {d : Details}
    (h : newChunkMemoryDetails M req sz al = .ok d) : d.size = d.nswf + FOOTER_SIZE := by
  rw [newChunkMemoryDetails_eq] at h
  split at h
  · cases h
  dsimp only at h
  split at h
  · cases h
  split at h
  · cases h
  · exact detailsTail_size h

/-- the translated tail shared by both size branches (`new_chunk_memory_details.k_2`) -/
theorem gen_details_tail (M : Nat) (req : Option Nat) (lay : Layout) (A n0 : Nat) (r : Option Nat) (jv rq n1 n2 : Nat) :
    Outcome.sim (Gen.Fn.new_chunk_memory_details.k_2 M req lay A n0 r jv rq n1 n2) (reify (detailsTail A n2)) := by
  have hc : CHUNK_ALIGN ≠ 0 := by decide
  simp only [Gen.Fn.new_chunk_memory_details.k_2, Gen.Fn.new_chunk_memory_details.k_3, detailsTail, if_pos hc, beq_iff_eq]
  by_cases h1 : A % CHUNK_ALIGN = 0
  case neg => rw [if_neg h1, if_pos (.inl h1)]; exact Outcome.sim_bad _ _
  by_cases h2 : n2 % CHUNK_ALIGN = 0
  case neg => rw [if_pos h1, if_neg h2, if_pos (.inr h2)]; exact Outcome.sim_bad _ _
  rw [if_pos h1, if_pos h2, if_neg (fun h => h.elim (· h1) (· h2))]
  cases checkedAdd n2 FOOTER_SIZE <;> exact Outcome.sim_refl _

theorem gen_new_chunk_memory_details (M : Nat) (req : Option Nat) (sz al : Nat)
    (hM : P2 M) (hal : P2 al) (hsz : sz < USIZE) :
    Outcome.sim (Gen.Fn.new_chunk_memory_details M req ⟨sz, al⟩)
      (reify (newChunkMemoryDetails M req sz al)) := by
  have hA : P2 (max (max CHUNK_ALIGN M) al) := p2_max (p2_max p2_chunk_align hM) hal
  rw [newChunkMemoryDetails_eq]
  simp only [Gen.Fn.new_chunk_memory_details, gen_round_up_to sz _ hA hsz, bindP]
  cases roundUpTo sz (max (max CHUNK_ALIGN M) al) with
  | none => exact Outcome.sim_refl _
  | some rs =>
    dsimp only [Gen.Fn.new_chunk_memory_details.k_1]
    generalize max (req.getD DEFAULT_CHUNK_SIZE_WITHOUT_FOOTER) rs = n1
    by_cases hov : n1 + OVERHEAD < USIZE
    case neg =>
      rw [if_pos (Nat.le_of_not_lt hov), if_neg hov, if_neg hov]
      split <;> exact Outcome.sim_bad _ _
    rw [if_neg (Nat.not_le_of_lt hov), if_pos hov, if_pos hov]
    by_cases hpg : n1 < TYPICAL_PAGE_SIZE
    · have hnp : nextPow2 (n1 + OVERHEAD) < USIZE := by
        have h1 : 1 ≤ n1 + OVERHEAD := by have : 0 < OVERHEAD := by decide
                                          omega
        have := nextPow2_lt_two_mul h1
        have h2 : TYPICAL_PAGE_SIZE = 4096 := by decide
        have h3 : OVERHEAD < 4096 := by decide
        unfold USIZE; omega
      have hge : OVERHEAD ≤ nextPow2 (n1 + OVERHEAD) := Nat.le_trans (by omega) (le_nextPow2 _)
      rw [if_pos (decide_eq_true hpg), if_pos hpg, next_power_of_two, if_pos hnp, bindP, if_pos hge]
      exact gen_details_tail ..
    · rw [if_neg (by simpa using hpg), if_neg hpg, gen_round_up_to _ _ p2_page hov, bindP]
      cases hr2 : roundUpTo (n1 + OVERHEAD) TYPICAL_PAGE_SIZE with
      | none => exact Outcome.sim_refl _
      | some x =>
        have := (roundUpTo_some (by decide) hr2).1
        dsimp only [Option.map_some]
        rw [if_pos (show OVERHEAD ≤ x by omega)]
        exact gen_details_tail ..

theorem gen_chunk_fits_under_limit (M : Nat) (rem : Option Nat) (d : Details) :
    Gen.Fn.chunk_fits_under_limit M rem d = .ok (fitsUnderLimit rem d) := by
  unfold Gen.Fn.chunk_fits_under_limit Gen.Fn.chunk_fits_under_limit.k_1 fitsUnderLimit
  cases rem <;> simp

#print axioms gen_new_chunk_memory_details
#print axioms gen_chunk_fits_under_limit
end Bump
