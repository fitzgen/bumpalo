import BumpVerif.Model.Multi
import BumpVerif.Proofs.Step
import BumpVerif.Props.GenFacts
/-!
# C20 — arenas are isolated from each other, also across threads

What a proof about the model can carry: (1) an arena's transitions are a function of its own
state, its own operations and its own allocator answers — an arbitrary interleaving with
another arena's history changes nothing for it; (2) the one piece of state arenas share, the
static empty chunk, never changes *value*. (3) the code never *writes* to that static: all finger stores go through
`ChunkFooter::set_ptr`, whose guard the translator re-reads from the source on every run (before
the `fix:` commit for F8 zero-sized requests on a chunk-less arena stored the unchanged value: a
data race under the Rust memory model). What a proof about the model cannot exhibit is a race
itself; Miri runs on small multi-threaded programs are kept as support.
-/
namespace Bump.C20
open Bump Gen

/-- **Isolation.** For every interleaving of two arenas' histories, what arena 1 ends up with and
what its operations returned is exactly what it gets running its own history alone (same for
arena 2): results, placement, accounting, live blocks, allocator traffic. -/
theorem interleaving_isolated (E : Nat) : ∀ (ops : List (Bool × Op)) (t : Two),
    (run2 E ops t).1.y1 = (sysRun E (project false ops) t.y1).1 ∧
    (run2 E ops t).1.y2 = (sysRun E (project true ops) t.y2).1 ∧
    projectRes false (run2 E ops t).2 = (sysRun E (project false ops) t.y1).2 ∧
    projectRes true (run2 E ops t).2 = (sysRun E (project true ops) t.y2).2 := by
  intro ops
  induction ops with
  | nil => intro t; exact ⟨rfl, rfl, rfl, rfl⟩
  | cons x xs ih =>
    intro t
    obtain ⟨w, op⟩ := x
    -- by definition the step goes to the arena the tag names, and the other arena's projection skips it
    cases w with
    | false =>
      obtain ⟨a1, a2, a3, a4⟩ := ih { t with y1 := (sysStep E op t.y1).1 }
      exact ⟨a1, a2, congrArg (List.cons _) a3, a4⟩
    | true =>
      obtain ⟨a1, a2, a3, a4⟩ := ih { t with y2 := (sysStep E op t.y2).1 }
      exact ⟨a1, a2, a3, congrArg (List.cons _) a4⟩

/-- The shared static never changes value: whenever a chunk-less arena "stores" its finger the
stored value is the static's own address and the arena is unchanged. -/
theorem static_value_invariant {E a p a'} (hn : a.chunks = []) (h : setCurPtr E a p = some a') : p = E ∧ a' = a := by
  unfold setCurPtr at h
  rw [hn] at h
  simp only at h
  split at h
  · rename_i hp; cases h; exact ⟨hp, rfl⟩
  · cases h

/-- **No shared write.** No operation of any arena writes to the static empty chunk: every finger
store goes through `ChunkFooter::set_ptr`, whose guard is re-read from the source on every run
(`GenFacts.static_store_guarded`). Hence distinct arenas on distinct threads share no written
memory (the race that Miri reported before the `fix:` commit is gone; Miri is still run on every
check as support). -/
theorem no_shared_write (E : Nat) (a : Arena) (sz al : Nat) : storesToStatic E a sz al = false := by
  unfold storesToStatic
  rw [GenFacts.static_store_guarded]
  rfl

/-- even without the guard, an arena that holds a chunk never touches the static -/
theorem no_shared_write_unguarded_partial (E : Nat) (a : Arena) (sz al : Nat) (h : a.chunks ≠ []) :
    storesToStaticUnguarded E a sz al = false := by
  unfold storesToStaticUnguarded
  cases hc : a.chunks with
  | nil => exact absurd hc h
  | cons c cs => simp

/-- …but a chunk-less arena did, for every zero-sized request (the defect F8, fixed): the
unguarded statement is false. Kept as the witness that the guard is what the theorem rests on. -/
theorem unguarded_counterexample : ∃ E a sz al, storesToStaticUnguarded E a sz al = true :=
  ⟨160, ⟨1, [], none⟩, 0, 1, by decide⟩

/-- the arena-side invariants hold for each arena of an interleaving separately (C01 per arena) -/
theorem interleaved_live {E} (hE : EnvOK E) (ops : List (Bool × Op)) (t : Two)
    (i1 : LiveInv E t.y1) (h1 : RunOKFull E (project false ops) t.y1) : LiveInv E (run2 E ops t).1.y1 := by
  rw [(interleaving_isolated E ops t).1]
  exact (sysRun_live_full hE _ _ i1 h1).1

example : (run2 160 [(false, .alloc 8 8 true), (true, .alloc 8 8 true), (false, .reset)]
    ⟨⟨{ a := ⟨1, [⟨4096, 560, 16, 4608, 512⟩], none⟩, ans := [] }, []⟩,
     ⟨{ a := ⟨8, [⟨8192, 560, 16, 8704, 512⟩], none⟩, ans := [] }, []⟩⟩).2.length = 3 := by decide

end Bump.C20

#print axioms Bump.C20.interleaving_isolated
#print axioms Bump.C20.static_value_invariant
#print axioms Bump.C20.no_shared_write
#print axioms Bump.C20.no_shared_write_unguarded_partial
#print axioms Bump.C20.unguarded_counterexample
#print axioms Bump.C20.interleaved_live
