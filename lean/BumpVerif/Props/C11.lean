import BumpVerif.Proofs.Refill
/-! # C11 — a failed initialiser hands back its error and leaves no residue -/
namespace Bump.C11
open Bump Gen

/-- The initialiser is not run if space cannot be reserved: when the reservation fails the call
returns that failure (`Err(Alloc)` / out-of-memory panic), the model never reaches the
initialiser (no inner pointers exist) and the arena is unchanged. -/
theorem init_not_run_on_alloc_failure {E sz al} (ok f : Bool) (inner : List Inner) (s : St)
    (hE : EnvOK E) (h : ArenaWF E s.a) (hA : IsPow2 al) (hlay : sz + al ≤ 2 ^ 63)
    (hfail : (allocMaybe E f sz al s).2 = .err ∨ (allocMaybe E f sz al s).2 = .panic) :
    (allocTryWith E sz al ok inner f s).1 = (allocMaybe E f sz al s).1 ∧
    ((allocTryWith E sz al ok inner f s).2 = .err ∨ (allocTryWith E sz al ok inner f s).2 = .panic) ∧
    (allocTryWith E sz al ok inner f s).1.a = s.a := by
  rw [atw_of_not_ok ok inner f s fun p hp => by rcases hfail with h | h <;> rw [h] at hp <;> cases hp]
  refine ⟨rfl, ?_, ((allocMaybe_spec f s hE h hA hlay).fail hfail).1⟩
  rcases hfail with h | h <;> simp only [h, Res.ofOutcome]
  · exact .inl trivial
  · exact .inr trivial

/-- **No residue.** If the initialiser allocated nothing and reported an error, the call returns
that error (`ierr`), the arena is the arena on entry (same-chunk case: the finger is restored to
its value on entry, reclaiming alignment padding too) or the arena on entry plus the *empty* chunk
that was acquired for the value (finger back at its footer), and a request of the same layout
made next is served by the fast path at the same address: no memory is obtained from the global
allocator for it. Holds for every remaining capacity (value lands in the current chunk or forces
a new one), every layout, every `MIN_ALIGN`, fallible or not. -/
theorem no_residue {E sz al slot} (f : Bool) (s : St) (hE : EnvOK E) (h : ArenaWF E s.a) (hA : IsPow2 al)
    (hlay : sz + al ≤ 2 ^ 63) (hok : (allocMaybe E f sz al s).2 = .ok slot) :
    (allocTryWith E sz al false [] f s).2 = .ierr [] ∧
    ArenaWF E (allocTryWith E sz al false [] f s).1.a ∧
    ((allocTryWith E sz al false [] f s).1.a = s.a ∨
      ∃ c, c.ptr = c.footer ∧ (allocTryWith E sz al false [] f s).1.a = { s.a with chunks := c :: s.a.chunks }) ∧
    tryFast E (allocTryWith E sz al false [] f s).1.a sz al = .ok (some ((allocMaybe E f sz al s).1.a, slot)) := by
  obtain ⟨h1, h2, _, _, h5, h6⟩ := atw_err_no_residue f s hE h hA hlay slot hok
  exact ⟨h1, h2, h5, h6⟩

/-- **Blocks the initialiser allocated and kept stay valid and untouched**, whatever else it did
(released blocks, acquired chunks) and whether or not the rewind took place: after a failed
`alloc_try_with`/`try_alloc_try_with` every block that was live on entry and every block the
initialiser kept is in the used part of a held chunk, they are pairwise disjoint (so nothing will
be handed out over them), and the arena wrote no memory (`mem` unchanged: C02). -/
theorem inner_blocks_kept {E sz al} (inner : List Inner) (f : Bool) (y : Sys) (hE : EnvOK E) (inv : LiveInv E y)
    (hA : IsPow2 al) (hlay : sz + al ≤ 2 ^ 63) (hin : ∀ i ∈ inner, InnerValid i) (ps : List Nat)
    (hres : (sysStep E (.atw sz al false inner f) y).2 = .ierr ps) :
    LiveInv E (sysStep E (.atw sz al false inner f) y).1 ∧
    (sysStep E (.atw sz al false inner f) y).1.live = y.live ++ keptBlocks inner ps := by
  have h := (sysStep_live_full hE y (.atw sz al false inner f) inv ⟨hA, hlay, hin⟩).2 (by rw [hres]; simp)
  refine ⟨h, ?_⟩
  show liveAfter y.live _ (step E _ y.st).2 = _
  rw [show (step E _ y.st).2 = .ierr ps from hres]
  rfl

/-- **No residue after a failed slice fill**: `alloc_slice_try_fill_with` / `_iter` whose closure
fails at an index `i < n` hands back the error, and the same layout requested next is served by the
fast path at the same address without obtaining memory — for every Rust element type (alignment
divides size), every `MIN_ALIGN`, whether the reservation fitted the current chunk or forced a new one. -/
theorem fill_no_residue {E esz eal n i p} (s : St) (hE : EnvOK E) (wf : ArenaWF E s.a) (hA : IsPow2 eal)
    (hlay : esz * n + eal ≤ 2 ^ 63) (harr : arrayLayout esz eal n = some (esz * n)) (hi : i < n)
    (hdv : eal ∣ esz) (hok : (allocLayout E (esz * n) eal s).2 = .ok p) :
    (sliceTryFill E esz eal n (some i) s).2 = .ierr [] ∧
    tryFast E (sliceTryFill E esz eal n (some i) s).1.a (esz * n) eal = .ok (some ((allocLayout E (esz * n) eal s).1.a, p)) :=
  sliceTryFill_no_residue s hE wf hA hlay harr hi (Or.inr (Nat.dvd_mul_right_of_dvd hdv n)) hok

/-- On success the value's slot is the reserved block and the arena is whatever the reservation
and the initialiser's own allocations left: nothing is rewound. -/
theorem ok_keeps_slot {E sz al} (f : Bool) (s : St) (slot : Nat) (hok : (allocMaybe E f sz al s).2 = .ok slot) :
    allocTryWith E sz al true [] f s = ((allocMaybe E f sz al s).1, .ptrIn slot []) :=
  atw_of_ok [] f s hok rfl

/-- The fill loop of `alloc_slice_try_fill_with`: the closure is called with 0,1,2,… in order, and
not again after the first error. -/
def fillLoop (errat : Option Nat) : Nat → Nat → List Nat → List Nat × Bool
  | 0, _, acc => (acc, true)
  | k + 1, i, acc => if errat = some i then (acc ++ [i], false) else fillLoop errat k (i + 1) (acc ++ [i])

theorem fillLoop_spec (errat : Option Nat) : ∀ k i acc,
    (fillLoop errat k i acc).1 = acc ++ (List.range' i (match errat with
      | some e => if i ≤ e ∧ e < i + k then e + 1 - i else k
      | none => k)) := by
  intro k
  induction k with
  | zero =>
    intro i acc
    cases errat with
    | none => simp [fillLoop]
    | some e =>
      simp only [fillLoop, Nat.add_zero]
      have : ¬ (i ≤ e ∧ e < i) := by omega
      simp [this]
  | succ k ih =>
    intro i acc
    unfold fillLoop
    by_cases he : errat = some i
    · subst he
      simp only [↓reduceIte]
      have : i ≤ i ∧ i < i + (k + 1) := ⟨Nat.le_refl _, by omega⟩
      simp only [this, and_self, ↓reduceIte]
      have : i + 1 - i = 1 := by omega
      rw [this]; simp [List.range']
    · simp only [he, ↓reduceIte]
      rw [ih]
      cases errat with
      | none => simp [List.range'_succ, List.append_assoc]
      | some e =>
        have hne : e ≠ i := fun hh => he (by rw [hh])
        simp only
        by_cases hc : i ≤ e ∧ e < i + (k + 1)
        · have hc' : i + 1 ≤ e ∧ e < i + 1 + k := by omega
          simp only [hc, hc', and_self, ↓reduceIte]
          have : e + 1 - i = (e + 1 - (i + 1)) + 1 := by omega
          rw [this, List.range'_succ]; simp [List.append_assoc]
        · have hc' : ¬ (i + 1 ≤ e ∧ e < i + 1 + k) := by omega
          simp only [hc, hc', ↓reduceIte]
          rw [List.range'_succ]; simp [List.append_assoc]

example : (allocTryWith 160 1000 4 false [] false { a := ⟨1, [⟨4096, 112, 16, 4160, 64⟩], none⟩, ans := [some 8192] }).1.a.chunks
    = [⟨8192, 2032, 16, 10176, 2048⟩, ⟨4096, 112, 16, 4160, 64⟩] := by decide

end Bump.C11

#print axioms Bump.C11.init_not_run_on_alloc_failure
#print axioms Bump.C11.no_residue
#print axioms Bump.C11.inner_blocks_kept
#print axioms Bump.C11.fill_no_residue
#print axioms Bump.C11.ok_keeps_slot
#print axioms Bump.C11.fillLoop_spec
