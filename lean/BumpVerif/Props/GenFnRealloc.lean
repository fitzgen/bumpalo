import BumpVerif.Props.GenFnFast
import BumpVerif.Gen.FnRealloc
import BumpVerif.Props.GenFnDetails
/-! # The translated `try_alloc_layout`, `dealloc`, `shrink`, `grow` of `src/lib.rs` equal the hand-written model -/
namespace Bump
open Rs Gen

theorem gen_is_last_allocation (E M p : Nat) (s : St) :
    Gen.Fn.is_last_allocation E M p s = .ok (isLast E s.a p) := rfl

/-- `try_alloc_layout`: the translated fast path, else the (hand-modelled) slow path -/
theorem gen_try_alloc_layout (E sz al : Nat) (s : St)
    (hM : P2 s.a.M) (hal : P2 al) (hsz : sz < USIZE) (hp : (s.a.cur E).ptr < USIZE)
    (hne : HeadNotStatic E s.a) :
    simS (Gen.Fn.try_alloc_layout E s.a.M ⟨sz, al⟩ s) (tryAllocLayout E sz al s) := by
  unfold Gen.Fn.try_alloc_layout
  refine simS_trans (simS_bindO _ (gen_try_alloc_layout_fast E sz al s hM hal hsz hp hne)) ?_
  unfold fastResult tryAllocLayout
  rcases tryFast E s.a sz al with (_ | ⟨a', p⟩) | _ | _ | _ | _
  · exact simS_of_eq (bindO_reifyS_err (allocSlow E sz al) s)
  all_goals exact simS_refl _

theorem gen_dealloc (E p sz : Nat) (s : St) (al : Nat)
    (hM : P2 s.a.M) (hp : (s.a.cur E).ptr < USIZE) (hne : HeadNotStatic E s.a) :
    simS (Gen.Fn.dealloc E s.a.M p ⟨sz, al⟩ s) (dealloc E p sz s) := by
  simp only [Gen.Fn.dealloc, dealloc, gen_is_last_allocation, pureO, bindO_ok]
  by_cases hl : isLast E s.a p = true
  case neg => rw [if_neg hl, if_neg hl]; exact simS_refl _
  have hpe : (s.a.cur E).ptr = p := by simpa [isLast] using hl
  rw [if_pos hl, if_pos hl, hpe]
  by_cases hov : p + sz < USIZE
  case neg => rw [if_neg hov, if_pos (Nat.le_of_not_lt hov)]; exact simS_bad _ _ _
  rw [if_pos hov, if_neg (Nat.not_le_of_lt hov)]
  rcases gen_round_mut_ptr_up_to_unchecked (p + sz) s.a.M hM hov with ⟨x, hx, hg⟩ | ⟨hx, w, hg⟩
  · have hxU : x < USIZE := roundUpTo_lt hM.pos hx
    simp only [hx, hg, bindO_ok, gen_is_pointer_aligned_to _ _ hM hxU, beq_iff_eq, ne_eq]
    by_cases hxa : x % s.a.M = 0
    · rw [if_pos hxa, if_neg (not_not_intro hxa), bindO_unit]
      exact gen_set_ptr E s.a.M x s _ hne
    · rw [if_neg hxa, if_pos hxa]; exact simS_bad _ _ _
  · simp only [hx, hg, bindO]; exact simS_bad _ _ _

theorem gen_copy_nonoverlapping (p q n : Nat) (why : String) (s : St) :
    simS (bindO (Rs.copy_nonoverlapping p q n s) fun s _ => (s, Outcome.ok q)) (copyNonoverlapping p q n why s) := by
  unfold Rs.copy_nonoverlapping copyNonoverlapping
  by_cases ho : rangesOverlap p q n = true
  · rw [if_pos ho, if_pos ho]; exact simS_bad _ _ _
  · rw [if_neg ho, if_neg ho]; exact simS_refl _

/-- fresh allocation + `copy_nonoverlapping`, the shared tail of `shrink` (stricter alignment) and `grow` (fallback) -/
theorem gen_alloc_copy (E sz al p n : Nat) (why : String) (s : St)
    (hM : P2 s.a.M) (hal : P2 al) (hsz : sz < USIZE) (hp : (s.a.cur E).ptr < USIZE) (hne : HeadNotStatic E s.a) :
    simS
      (bindO (reifyS (Gen.Fn.try_alloc_layout E s.a.M ⟨sz, al⟩) s) fun s r_1 =>
        match r_1 with
        | none => (s, Outcome.err)
        | some x => bindO (Rs.copy_nonoverlapping p x n s) fun s _ => (s, Outcome.ok x))
      (bindO (tryAllocLayout E sz al s) fun s q => copyNonoverlapping p q n why s) := by
  rw [bindO_reifyS _ _ fun s x => bindO (Rs.copy_nonoverlapping p x n s) fun s _ => (s, Outcome.ok x)]
  exact simS_bind (gen_try_alloc_layout E sz al s hM hal hsz hp hne) fun t q => gen_copy_nonoverlapping p q n why t

theorem gen_shrink (E p osz oal nsz nal : Nat) (s : St)
    (hM : P2 s.a.M) (hnal : P2 nal) (hpU : p < USIZE) (hosz : osz + 1 < USIZE) (hnsz : nsz < USIZE)
    (hp : (s.a.cur E).ptr < USIZE) (hpd : (s.a.cur E).ptr + osz < USIZE) (hne : HeadNotStatic E s.a) :
    simS (Gen.Fn.shrink E s.a.M p ⟨osz, oal⟩ ⟨nsz, nal⟩ s) (shrink E p osz oal nsz nal s) := by
  simp only [Gen.Fn.shrink, shrink, gen_is_pointer_aligned_to p nal hnal hpU, pureO, bindO_ok, beq_iff_eq, ne_eq,
    decide_eq_true_eq]
  by_cases ha : oal < nal
  · rw [if_pos ha, if_pos ha]
    by_cases hpa : p % nal = 0
    · rw [if_pos hpa, if_pos hpa]; exact simS_refl _
    · rw [if_neg hpa, if_neg hpa]
      exact gen_alloc_copy E nsz nal p nsz _ s hM hnal hnsz hp hne
  rw [if_neg ha, if_neg ha]
  by_cases hpa : p % nal = 0
  case neg => rw [if_neg hpa, if_pos hpa]; exact simS_bad _ _ _
  rw [if_pos hpa, if_neg (not_not_intro hpa)]
  by_cases hsz : nsz ≤ osz
  case neg => rw [if_neg hsz, if_pos (Nat.lt_of_not_le hsz)]; exact simS_bad _ _ _
  rw [if_pos hsz, if_neg (Nat.not_lt_of_le hsz),
    gen_round_down_to _ _ (p2_max hnal hM) (show osz - nsz < USIZE by omega)]
  simp only [bindO_ok, gen_is_last_allocation]
  generalize hdel : roundDownTo (osz - nsz) (max nal s.a.M) = delta
  have hdle : delta ≤ osz := by
    have := roundDownTo_le (osz - nsz) (max nal s.a.M)
    omega
  by_cases hl : isLast E s.a p = true
  case neg =>
    rw [if_neg hl, if_neg (by rw [Bool.and_eq_true]; exact fun h => hl h.1)]
    exact simS_refl _
  rw [if_pos hl, if_pos hosz, hl, Bool.true_and]
  unfold Gen.Fn.shrink.k_1
  by_cases hd : decide (delta ≥ (osz + 1) / 2) = true
  case neg => rw [if_neg hd, if_neg hd]; exact simS_refl _
  have hq : (s.a.cur E).ptr + delta < USIZE := by have := of_decide_eq_true hd; omega
  rw [if_pos hd, if_pos hd, if_pos hq]
  simp only [gen_is_pointer_aligned_to _ _ hM hq, pureO, bindO_ok, beq_iff_eq]
  by_cases hqa : ((s.a.cur E).ptr + delta) % s.a.M = 0
  case neg => rw [if_neg hqa, if_pos hqa]; exact simS_bad _ _ _
  rw [if_pos hqa, if_neg (not_not_intro hqa)]
  exact simS_bind (gen_set_ptr E s.a.M _ s _ hne) fun s' _ => gen_copy_nonoverlapping ..

theorem gen_grow (E p osz oal nsz nal : Nat) (s : St)
    (hM : P2 s.a.M) (hnal : P2 nal) (hnsz : nsz < USIZE)
    (hp : (s.a.cur E).ptr < USIZE) (hne : HeadNotStatic E s.a) :
    simS (Gen.Fn.grow E s.a.M p ⟨osz, oal⟩ ⟨nsz, nal⟩ s) (grow E p osz oal nsz nal s) := by
  -- `grow.k_2 … s` (the fallback, whatever its unused arguments) against `growFallback`
  have hfb := gen_alloc_copy E nsz nal p osz "grow: copy_nonoverlapping on overlapping ranges" s hM hnal hnsz hp hne
  simp only [Gen.Fn.grow, grow, gen_round_up_to nsz _ hM hnsz, pureO, bindO_ok, gen_is_last_allocation]
  rcases roundUpTo nsz s.a.M with _ | ns
  · exact simS_refl _
  simp only [decide_eq_true_eq, Bool.and_eq_true]
  by_cases hc : oal ≥ nal ∧ isLast E s.a p = true
  case neg =>
    rw [if_neg hc]
    by_cases hc1 : oal ≥ nal
    · rw [if_pos hc1, Gen.Fn.grow.k_1, if_neg fun h => hc ⟨hc1, h⟩]; exact hfb
    · rw [if_neg hc1, Gen.Fn.grow.k_1, if_neg Bool.false_ne_true]; exact hfb
  rw [if_pos hc, if_pos hc.1, Gen.Fn.grow.k_1, if_pos hc.2]
  by_cases ho : osz ≤ ns
  case neg => rw [if_neg ho, if_pos (Nat.lt_of_not_le ho)]; exact simS_bad _ _ _
  rw [if_pos ho, if_neg (Nat.not_lt_of_le ho)]
  simp only [gen_layout_from_size_align]
  by_cases hv : validLayout (ns - osz) oal = true
  case neg => simp only [hv, reify, pureO, Bool.not_false, if_true]; exact simS_refl _
  obtain ⟨hoal, hdl⟩ := validLayout_p2 hv
  simp only [hv, if_true, reify, pureO, bindO_ok, Bool.not_true, Bool.false_eq_true, if_false]
  refine simS_trans (simS_bindO _ (gen_try_alloc_layout_fast E (ns - osz) oal s hM hoal hdl hp hne)) ?_
  unfold fastResult
  rcases tryFast E s.a (ns - osz) oal with (_ | ⟨a', q⟩) | _ | _ | _ | _
  · exact hfb
  all_goals exact simS_refl _

#print axioms gen_try_alloc_layout
#print axioms gen_dealloc
#print axioms gen_shrink
#print axioms gen_grow
end Bump
