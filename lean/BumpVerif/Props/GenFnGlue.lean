import BumpVerif.Gen.FnGlue
import BumpVerif.Props.GenFnRealloc
/-!
# The thin layers over the allocation kernel, as translated

`alloc_layout`, `set_allocation_limit`, `min_align`, the `Alloc` impl for `&Bump` (`alloc`, `dealloc`, `realloc` — the path
`RawVec` grows through) and the `Allocator` impl (`allocate`, `deallocate`, `shrink`, `grow`, `grow_zeroed`) are regenerated
from the source and proved to add nothing to `tryAllocLayout` / `dealloc` / `shrink` / `grow` but what the model's operation
alphabet says (`Model/Arena.lean: step`): the error-to-panic conversion, the length of the returned slice, the zeroing of the
grown part.
-/
namespace Bump
open Bump.Rs Gen

theorem allocLayout_eq (E sz al : Nat) (s : St) : allocLayout E sz al s = errToPanic (tryAllocLayout E sz al s) := by
  unfold allocLayout errToPanic
  rcases tryAllocLayout E sz al s with ⟨t, _ | _ | _ | _ | _⟩ <;> rfl

theorem gen_alloc_layout (E sz al : Nat) (s : St) (hM : P2 s.a.M) (hal : P2 al) (hsz : sz < USIZE) (hp : (s.a.cur E).ptr < USIZE)
    (hne : HeadNotStatic E s.a) :
    simS (Gen.Fn.alloc_layout E s.a.M ⟨sz, al⟩ s) (allocLayout E sz al s) := by
  rw [Gen.Fn.alloc_layout, bindO_reifyS_panic, allocLayout_eq]
  exact simS_errToPanic (gen_try_alloc_layout E sz al s hM hal hsz hp hne)

theorem gen_set_allocation_limit (E M : Nat) (l : Option Nat) (s : St) :
    Gen.Fn.set_allocation_limit E M l s = ({ s with a := { s.a with limit := l } }, .ok ()) := rfl

theorem gen_min_align (E M : Nat) (s : St) : Gen.Fn.min_align E M s = .ok M := rfl

theorem gen_alloc_alloc (E sz al : Nat) (s : St) (hM : P2 s.a.M) (hal : P2 al) (hsz : sz < USIZE) (hp : (s.a.cur E).ptr < USIZE)
    (hne : HeadNotStatic E s.a) :
    simS (Gen.Fn.alloc_alloc E s.a.M ⟨sz, al⟩ s) (tryAllocLayout E sz al s) := by
  rw [Gen.Fn.alloc_alloc, bindO_reifyS_err]
  exact gen_try_alloc_layout E sz al s hM hal hsz hp hne

theorem gen_alloc_dealloc (E p sz al : Nat) (s : St) (hM : P2 s.a.M) (hp : (s.a.cur E).ptr < USIZE) (hne : HeadNotStatic E s.a) :
    simS (Gen.Fn.alloc_dealloc E s.a.M p ⟨sz, al⟩ s) (dealloc E p sz s) := by
  rw [Gen.Fn.alloc_dealloc, bindO_unit]
  exact gen_dealloc E p sz s al hM hp hne

/-- what `RawVec` asks of the arena when it grows or shrinks its buffer -/
def reallocModel (E p osz al nsz : Nat) (s : St) : St × Outcome Nat :=
  if osz = 0 then tryAllocLayout E osz al s
  else if validLayout nsz al then (if nsz ≤ osz then shrink E p osz al nsz al s else grow E p osz al nsz al s)
  else (s, .err)

theorem gen_alloc_realloc (E p osz al nsz : Nat) (s : St)
    (hM : P2 s.a.M) (hal : P2 al) (hpU : p < USIZE) (hosz : osz + 1 < USIZE)
    (hp : (s.a.cur E).ptr < USIZE) (hpd : (s.a.cur E).ptr + osz < USIZE) (hne : HeadNotStatic E s.a) :
    simS (Gen.Fn.alloc_realloc E s.a.M p ⟨osz, al⟩ nsz s) (reallocModel E p osz al nsz s) := by
  unfold Gen.Fn.alloc_realloc reallocModel
  dsimp only
  by_cases h0 : osz = 0
  · rw [if_pos h0, if_pos (by rw [h0]; rfl), bindO_reifyS_err]
    exact gen_try_alloc_layout E osz al s hM hal (by omega) hp hne
  rw [if_neg h0, if_neg (by simpa using h0), gen_layout_from_size_align]
  by_cases hv : validLayout nsz al = true
  · have hnsz := (validLayout_p2 hv).2
    rw [if_pos hv, if_pos hv]
    dsimp only [reify, pureO_ok]
    by_cases hle : nsz ≤ osz
    · rw [if_pos (decide_eq_true hle), if_pos hle, bindO_reifyS_err]
      exact gen_shrink E p osz al nsz al s hM hal hpU hosz hnsz hp hpd hne
    · rw [if_neg (by simpa using hle), if_neg hle, bindO_reifyS_err]
      exact gen_grow E p osz al nsz al s hM hal hnsz hp hne
  · rw [if_neg hv, if_neg hv]; exact simS_refl _

theorem gen_allocator_allocate (E sz al : Nat) (s : St) (hM : P2 s.a.M) (hal : P2 al) (hsz : sz < USIZE) (hp : (s.a.cur E).ptr < USIZE)
    (hne : HeadNotStatic E s.a) :
    simS (Gen.Fn.allocator_allocate E s.a.M ⟨sz, al⟩ s) (mapOk (fun p => (p, sz)) (tryAllocLayout E sz al s)) := by
  rw [Gen.Fn.allocator_allocate, bindO_reifyS_map fun p => (p, sz)]
  exact simS_mapOk _ (gen_try_alloc_layout E sz al s hM hal hsz hp hne)

theorem gen_allocator_deallocate (E p sz al : Nat) (s : St) (hM : P2 s.a.M) (hp : (s.a.cur E).ptr < USIZE) (hne : HeadNotStatic E s.a) :
    simS (Gen.Fn.allocator_deallocate E s.a.M p ⟨sz, al⟩ s) (dealloc E p sz s) := by
  rw [Gen.Fn.allocator_deallocate, bindO_pure]
  exact gen_dealloc E p sz s al hM hp hne

theorem gen_allocator_shrink (E p osz oal nsz nal : Nat) (s : St)
    (hM : P2 s.a.M) (hnal : P2 nal) (hpU : p < USIZE) (hosz : osz + 1 < USIZE) (hnsz : nsz < USIZE)
    (hp : (s.a.cur E).ptr < USIZE) (hpd : (s.a.cur E).ptr + osz < USIZE) (hne : HeadNotStatic E s.a) :
    simS (Gen.Fn.allocator_shrink E s.a.M p ⟨osz, oal⟩ ⟨nsz, nal⟩ s) (mapOk (fun q => (q, nsz)) (shrink E p osz oal nsz nal s)) := by
  rw [Gen.Fn.allocator_shrink, bindO_reifyS_map fun q => (q, nsz)]
  exact simS_mapOk _ (gen_shrink E p osz oal nsz nal s hM hnal hpU hosz hnsz hp hpd hne)

theorem gen_allocator_grow (E p osz oal nsz nal : Nat) (s : St)
    (hM : P2 s.a.M) (hnal : P2 nal) (hnsz : nsz < USIZE) (hp : (s.a.cur E).ptr < USIZE) (hne : HeadNotStatic E s.a) :
    simS (Gen.Fn.allocator_grow E s.a.M p ⟨osz, oal⟩ ⟨nsz, nal⟩ s) (mapOk (fun q => (q, nsz)) (grow E p osz oal nsz nal s)) := by
  rw [Gen.Fn.allocator_grow, bindO_reifyS_map fun q => (q, nsz)]
  exact simS_mapOk _ (gen_grow E p osz oal nsz nal s hM hnal hnsz hp hne)

/-- `grow_zeroed` is the model's `agrow … (zeroed := true)` step: grow, then zero the bytes past the old size -/
theorem gen_allocator_grow_zeroed (E p osz oal nsz nal : Nat) (s : St)
    (hM : P2 s.a.M) (hnal : P2 nal) (hnsz : nsz < USIZE) (hp : (s.a.cur E).ptr < USIZE) (hne : HeadNotStatic E s.a)
    (hle : osz ≤ nsz) (hq : ∀ s' q, grow E p osz oal nsz nal s = (s', .ok q) → q + osz < USIZE) :
    simS (Gen.Fn.allocator_grow_zeroed E s.a.M p ⟨osz, oal⟩ ⟨nsz, nal⟩ s)
      (mapOk (fun q => (q, nsz)) (bindO (grow E p osz oal nsz nal s) fun s q =>
        ({ s with mem := s.mem ++ [.zero (q + osz) (nsz - osz)] }, .ok q))) := by
  unfold Gen.Fn.allocator_grow_zeroed
  have h1 := gen_allocator_grow E p osz oal nsz nal s hM hnal hnsz hp hne
  refine simS_trans (simS_bindO _ (simS_reify h1)) ?_
  generalize hg : grow E p osz oal nsz nal s = r at hq
  obtain ⟨s', o⟩ := r
  cases o with
  | ok q =>
    have := hq s' q rfl
    have hd : decide (osz ≤ nsz) = true := by simpa using hle
    simp [mapOk, reify, bindO, hd, this, Rs.zero_fill]
    exact simS_refl _
  | err => exact simS_refl _
  | panic => exact simS_refl _
  | bad w => exact simS_refl _
  | envBad => exact simS_refl _

#print axioms gen_alloc_layout
#print axioms gen_set_allocation_limit
#print axioms gen_min_align
#print axioms gen_alloc_alloc
#print axioms gen_alloc_dealloc
#print axioms gen_alloc_realloc
#print axioms gen_allocator_allocate
#print axioms gen_allocator_deallocate
#print axioms gen_allocator_shrink
#print axioms gen_allocator_grow
#print axioms gen_allocator_grow_zeroed

end Bump
