import BumpVerif.Props.GenFnBytes
import BumpVerif.Gen.FnLimit
/-! # The translated limit getters of `src/lib.rs` equal the hand-written model -/
namespace Bump
open Rs Gen

theorem gen_allocation_limit (E M : Nat) (s : St) :
    Gen.Fn.allocation_limit E M s = .ok s.a.limit := rfl

theorem gen_allocation_limit_remaining (E M : Nat) (s : St) :
    Gen.Fn.allocation_limit_remaining E M s = .ok (limitRemaining s.a E) := by
  unfold Gen.Fn.allocation_limit_remaining limitRemaining
  cases s.a.limit <;> simp [gen_allocated_bytes, bindP]

#print axioms gen_allocation_limit
#print axioms gen_allocation_limit_remaining
end Bump
