import BumpVerif.Proofs.Ops
/-! # C06 — reset() recycles the arena completely -/
namespace Bump.C06
open Bump Gen

/-- After `reset` on an arena that holds memory: exactly one chunk (the newest) is kept, its finger
is at its footer so chunk iteration shows zero allocated bytes, the other chunks are freed in
list order, limit and minimum alignment are unchanged, and the invariant holds. -/
theorem reset_post {E c rest} (s : St) (h : ArenaWF E s.a) (hc : s.a.chunks = c :: rest) :
    (reset s).2 = .ok () ∧ ArenaWF E (reset s).1.a ∧
    (reset s).1.a.chunks = [{ c with ptr := c.footer, ab := c.size - FOOTER_SIZE }] ∧
    iterChunks (reset s).1.a = [(c.footer, 0)] ∧
    (reset s).1.evs = s.evs ++ rest.map freeEv ∧
    (reset s).1.a.limit = s.a.limit ∧ (reset s).1.a.M = s.a.M := by
  obtain ⟨h2, h3, _, h5, h6, h7⟩ := reset_spec s h
  rcases h7 with ⟨hn, _⟩ | ⟨c', rest', hc', hch, hev⟩
  · rw [hc] at hn; cases hn
  · rw [hc] at hc'; cases hc'
    refine ⟨h2, h3, hch, ?_, hev, h6, h5⟩
    simp [iterChunks, hch, Chunk.footer]

/-- resetting an arena that never obtained memory is a no-op -/
theorem reset_empty_noop (s : St) (hc : s.a.chunks = []) : (reset s).1 = s ∧ (reset s).2 = .ok () := by
  unfold reset; rw [hc]; exact ⟨rfl, rfl⟩

/-- After `reset` the full usable capacity of the kept chunk is available again without asking the
global allocator: any request with `align ≤ MIN_ALIGN` whose size rounded up to `MIN_ALIGN` is at
most the kept chunk's usable size is served by the fast path (no allocator event). -/
theorem reset_full_capacity {E c rest sz al asz} (s : St) (hE : EnvOK E) (h : ArenaWF E s.a)
    (hc : s.a.chunks = c :: rest) (hal : al ≤ s.a.M) (hr : roundUpTo sz s.a.M = some asz)
    (hfit : asz ≤ c.size - FOOTER_SIZE) :
    chunkCapacity (reset s).1.a E = c.size - FOOTER_SIZE ∧
    allocFast s.a.M ((reset s).1.a.cur E) sz al = some (c.footer - asz) := by
  obtain ⟨_, _, hch, _⟩ := reset_post s h hc
  have hw := h.head hc
  have hfd : c.footer - c.data = c.size - FOOTER_SIZE := Nat.add_sub_cancel_left ..
  rw [chunkCapacity, Arena.cur_cons E hch]
  have hlt : c.footer < 2 ^ 63 := hw.footer_lt
  exact ⟨hfd, allocFast_fits s.a.M _ sz al hal (Nat.le_add_right ..) hlt asz hr (hfd ▸ hfit)⟩

/-- repeated resets: `reset` is idempotent on the arena -/
theorem reset_idem {E} (s : St) (h : ArenaWF E s.a) : (reset (reset s).1).1.a = (reset s).1.a := by
  obtain ⟨_, hwf, _, _, _, h7⟩ := reset_spec s h
  rcases h7 with ⟨hn, he⟩ | ⟨c, rest, hc, hch, _⟩
  · rw [he, he]
  · -- the kept chunk already has its finger at the footer and its byte count reset
    obtain ⟨_, _, hch2, _, _, hl, hm⟩ := reset_post (reset s).1 hwf hch
    exact Arena.eq_of hm (hch2.trans hch.symm) hl

example : (reset { a := ⟨1, [⟨4096, 496, 16, 4200, 448⟩], none⟩, ans := [] }).1.a.chunks = [⟨4096, 496, 16, 4544, 448⟩] := by decide

end Bump.C06

#print axioms Bump.C06.reset_post
#print axioms Bump.C06.reset_empty_noop
#print axioms Bump.C06.reset_full_capacity
#print axioms Bump.C06.reset_idem
