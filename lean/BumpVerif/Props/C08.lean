import BumpVerif.Proofs.Step
/-! # C08 — byte accounting matches what the arena really holds -/
namespace Bump.C08
open Bump Gen

theorem sumUsable_add_footers (cs : List Chunk) (h : ∀ c ∈ cs, FOOTER_SIZE ≤ c.size) :
    sumUsable cs + cs.length * FOOTER_SIZE = sumSize cs := by
  induction cs with
  | nil => simp [sumUsable, sumSize]
  | cons c cs ih =>
    have hc := h c List.mem_cons_self
    have := ih (fun x hx => h x (List.mem_cons_of_mem _ hx))
    simp only [sumUsable, sumSize, usable, List.map_cons, List.sum_cons, List.length_cons] at *
    rw [Nat.add_mul]; omega

/-- In every well-formed arena `allocated_bytes_including_metadata()` is the total size of the
chunks held, `allocated_bytes()` is that minus one footer per chunk, and both are 0 for an arena
that holds no memory. (`ArenaWF` is preserved by every operation: C01.) -/
theorem accounting {E a} (h : ArenaWF E a) :
    allocatedBytesIncludingMetadata a E = sumSize a.chunks ∧
    a.allocatedBytes E + a.chunks.length * FOOTER_SIZE = sumSize a.chunks ∧
    (a.chunks = [] → a.allocatedBytes E = 0 ∧ allocatedBytesIncludingMetadata a E = 0) := by
  have hs := sumUsable_add_footers a.chunks (fun c hc => (h.chunks c hc).size_ge)
  have hab : a.allocatedBytes E = sumUsable a.chunks := h.ab
  refine ⟨?_, ?_, ?_⟩
  · unfold allocatedBytesIncludingMetadata; rw [hab]; exact hs
  · rw [hab]; exact hs
  · intro hn
    unfold allocatedBytesIncludingMetadata
    rw [hab, hn]; simp [sumUsable]

/-- **All histories.** After any admissible history (constructors, allocations, failed
allocations, deallocate/grow/shrink, limit changes, resets, any number of times) both figures
are exact. -/
theorem history_accounting {E} (hE : EnvOK E) (ops : List Op) (y : Sys) (inv : LiveInv E y) (hrun : RunOKFull E ops y) :
    allocatedBytesIncludingMetadata (sysRun E ops y).1.st.a E = sumSize (sysRun E ops y).1.st.a.chunks ∧
    (sysRun E ops y).1.st.a.allocatedBytes E + (sysRun E ops y).1.st.a.chunks.length * FOOTER_SIZE
      = sumSize (sysRun E ops y).1.st.a.chunks := by
  have h := accounting (sysRun_live_full hE ops y inv hrun).1.wf
  exact ⟨h.1, h.2.1⟩

/-- An allocation that does not acquire a chunk changes neither figure. -/
theorem alloc_frame {E sz al p} (f : Bool) (s : St) (hE : EnvOK E) (h : ArenaWF E s.a)
    (hA : IsPow2 al) (hlay : sz + al ≤ 2 ^ 63) (hok : (allocMaybe E f sz al s).2 = .ok p)
    (hsame : (allocMaybe E f sz al s).1.a.chunks.length = s.a.chunks.length) :
    (allocMaybe E f sz al s).1.a.allocatedBytes E = s.a.allocatedBytes E ∧
    allocatedBytesIncludingMetadata (allocMaybe E f sz al s).1.a E = allocatedBytesIncludingMetadata s.a E := by
  have sp := allocMaybe_spec f s hE h hA hlay
  obtain ⟨hwf', _, _, _, hsh, _⟩ := sp.ok p hok
  have e : (allocMaybe E f sz al s).1.a.allocatedBytes E = s.a.allocatedBytes E := by
    rcases hsh with ⟨_, ha, _, _⟩ | ⟨c, cs, hc, hc', _, _⟩ | ⟨c, hc', _⟩
    · rw [ha]
    · simp [Arena.allocatedBytes, Arena.cur, hc, hc']
    · rw [hc'] at hsame; simp at hsame
  exact ⟨e, by unfold allocatedBytesIncludingMetadata; rw [e, hsame]⟩

/-- A failed allocation changes nothing at all. -/
theorem failure_frame {E sz al} (f : Bool) (s : St) (hE : EnvOK E) (h : ArenaWF E s.a)
    (hA : IsPow2 al) (hlay : sz + al ≤ 2 ^ 63)
    (hfail : (allocMaybe E f sz al s).2 = .err ∨ (allocMaybe E f sz al s).2 = .panic) :
    (allocMaybe E f sz al s).1.a = s.a :=
  ((allocMaybe_spec f s hE h hA hlay).fail hfail).1

/-- `dealloc` and limit changes never touch the figures; `reset` recomputes them for the kept chunk. -/
theorem dealloc_frame {E p sz} (s : St) (hE : EnvOK E) (h : ArenaWF E s.a)
    (hblk : (s.a.cur E).ptr = p → p + sz ≤ (s.a.cur E).footer) :
    (dealloc E p sz s).1.a.allocatedBytes E = s.a.allocatedBytes E ∧
    (dealloc E p sz s).1.a.chunks.length = s.a.chunks.length := by
  obtain ⟨_, _, _, _, _, _, h7⟩ := dealloc_spec s hE h hblk
  rcases h7 with he | ⟨c, cs, r, hc, _, _, _, hc'⟩
  · rw [he]; exact ⟨rfl, rfl⟩
  · simp [Arena.allocatedBytes, Arena.cur, hc, hc']

theorem reset_accounting {E c rest} (s : St) (h : ArenaWF E s.a) (hc : s.a.chunks = c :: rest) :
    (reset s).1.a.allocatedBytes E = c.size - FOOTER_SIZE ∧
    allocatedBytesIncludingMetadata (reset s).1.a E = c.size := by
  obtain ⟨_, hwf, _, _, _, h7⟩ := reset_spec s h
  rcases h7 with ⟨hn, _⟩ | ⟨c', rest', hc', hch, _⟩
  · rw [hc] at hn; cases hn
  · rw [hc] at hc'; cases hc'
    have hw := h.chunks c (by rw [hc]; exact List.mem_cons_self)
    have := hw.size_ge
    simp only [allocatedBytesIncludingMetadata, Arena.allocatedBytes, Arena.cur, hch, List.headD_cons, List.length_cons, List.length_nil, FS] at *
    constructor <;> omega

example : allocatedBytesIncludingMetadata ⟨1, [⟨4096, 496, 16, 4200, 448⟩], none⟩ 160 = 496 := by decide

end Bump.C08

#print axioms Bump.C08.accounting
#print axioms Bump.C08.history_accounting
#print axioms Bump.C08.alloc_frame
#print axioms Bump.C08.failure_frame
#print axioms Bump.C08.dealloc_frame
#print axioms Bump.C08.reset_accounting
