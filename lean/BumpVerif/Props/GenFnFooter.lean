import BumpVerif.Props.GenFnArith
import BumpVerif.Proofs.Sim
import BumpVerif.Proofs.Inv
import BumpVerif.Gen.FnFooter
/-! # The translated `ChunkFooter::set_ptr` of `src/lib.rs` equals the hand-written model

`set_ptr` is the only place a chunk's bump finger is stored; `gen_set_ptr` shows that the source's body never
stores to the shared static empty chunk (the primitive `Rs.chunk_ptr_set` is `bad` there) and otherwise is the
model's `storePtr`. -/
namespace Bump
open Rs Gen

theorem emptyChunk_footer (E : Nat) : (emptyChunk E).footer = E := by
  simp [emptyChunk, Chunk.footer]

def HeadNotStatic (E : Nat) (a : Arena) : Prop := ∀ h ∈ a.chunks.head?, h.footer ≠ E

theorem footer_ne_static {E : Nat} {a : Arena} {c : Chunk} (h : ArenaWF E a) (hc : c ∈ a.chunks) : c.footer ≠ E := by
  have := (h.chunks c hc).size_ge
  have hd := h.sdisj c hc
  have := FS
  unfold Disj at hd
  unfold Chunk.footer
  omega

theorem HeadNotStatic.of_wf {E : Nat} {a : Arena} (h : ArenaWF E a) : HeadNotStatic E a :=
  fun _ hc => footer_ne_static h (List.mem_of_mem_head? hc)

theorem P2.of_wf_M {E : Nat} {a : Arena} (h : ArenaWF E a) : P2 a.M := .of_isPow2 h.mpow (by have := h.mle; unfold USIZE; omega)

theorem gen_set_ptr (E M p : Nat) (s : St) (why : String) (hne : HeadNotStatic E s.a) :
    simS (Gen.Fn.set_ptr E M (s.a.cur E) p s) (storePtr E s p why) := by
  unfold Gen.Fn.set_ptr Gen.Fn.is_empty storePtr setCurPtr Arena.cur
  cases hc : s.a.chunks with
  | nil =>
    simp only [List.headD_nil, pureO, bindO, emptyChunk_footer, beq_self_eq_true, if_true]
    by_cases hp : p = E
    · subst hp; simp [emptyChunk, simS, Outcome.sim]
    · have : ¬ (emptyChunk E).ptr = p := by simp [emptyChunk]; omega
      simp [hp, this, simS, Outcome.sim]
  | cons h rest =>
    have hh : h.footer ≠ E := hne h (by simp [hc])
    simp only [List.headD_cons, pureO, bindO, emptyChunk_footer, chunk_ptr_set, hc]
    simp [hh, simS, Outcome.sim]

#print axioms gen_set_ptr
end Bump
