import BumpVerif.Proofs.Ops
/-! # C09 — fallible methods never panic; failure changes nothing -/
namespace Bump.C09
open Bump Gen

/-- `try_alloc_layout` (and every `try_alloc*` flavour built on it) returns `Ok` or `Err` for
every valid layout, every arena state and every pattern of allocator refusals: it never panics,
never trips an assertion, never wraps, and its candidate loop terminates (the model's loop runs
on fuel and `bad "…does not terminate"` is excluded here). -/
theorem try_total {E sz al} (s : St) (hE : EnvOK E) (h : ArenaWF E s.a) (hA : IsPow2 al)
    (hlay : sz + al ≤ 2 ^ 63) :
    (∃ p, (tryAllocLayout E sz al s).2 = .ok p) ∨ (tryAllocLayout E sz al s).2 = .err ∨
    (tryAllocLayout E sz al s).2 = .envBad := by
  obtain ⟨sp, hnp⟩ := tryAllocLayout_spec s hE h hA hlay
  cases ho : (tryAllocLayout E sz al s).2 with
  | ok p => exact Or.inl ⟨p, rfl⟩
  | err => exact Or.inr (Or.inl rfl)
  | panic => exact absurd ho hnp
  | bad w => exact absurd ho (sp.nobad w)
  | envBad => exact Or.inr (Or.inr rfl)

/-- On `Err` the arena is exactly as before, memory contents untouched, and the only allocator
traffic was refused requests (so the arena holds exactly the memory it held before). -/
theorem err_frame {E sz al} (s : St) (hE : EnvOK E) (h : ArenaWF E s.a) (hA : IsPow2 al)
    (hlay : sz + al ≤ 2 ^ 63) (herr : (tryAllocLayout E sz al s).2 = .err) :
    (tryAllocLayout E sz al s).1.a = s.a ∧ (tryAllocLayout E sz al s).1.mem = s.mem ∧
    ∃ refs, AllRefused refs ∧ (tryAllocLayout E sz al s).1.evs = s.evs ++ refs := by
  obtain ⟨sp, _⟩ := tryAllocLayout_spec s hE h hA hlay
  obtain ⟨ha, refs, hr, he⟩ := sp.fail (Or.inl herr)
  exact ⟨ha, sp.mem_eq, refs, hr, he⟩

/-- The infallible method panics in exactly the cases where the fallible one returns `Err`, and
otherwise does exactly the same. -/
theorem infallible_iff {E sz al} (s : St) (hE : EnvOK E) (h : ArenaWF E s.a) (hA : IsPow2 al)
    (hlay : sz + al ≤ 2 ^ 63) :
    ((allocLayout E sz al s).2 = .panic ↔ (tryAllocLayout E sz al s).2 = .err) ∧
    (allocLayout E sz al s).1 = (tryAllocLayout E sz al s).1 ∧
    (∀ p, (allocLayout E sz al s).2 = .ok p ↔ (tryAllocLayout E sz al s).2 = .ok p) := by
  obtain ⟨_, hnp⟩ := tryAllocLayout_spec s hE h hA hlay
  obtain ⟨e1, e2, e3, _⟩ := allocLayout_eq (E := E) (sz := sz) (al := al) s
  refine ⟨⟨fun hp => (e1.mp hp).resolve_right hnp, fun he => e1.mpr (Or.inl he)⟩, e2, e3⟩

/-- After a failure a later request that fits still succeeds (the state is unchanged, so whatever
the fast path could serve before it can serve now). -/
theorem still_usable_after_err {E sz al sz' al'} (s : St) (hE : EnvOK E) (h : ArenaWF E s.a) (hA : IsPow2 al)
    (hlay : sz + al ≤ 2 ^ 63) (herr : (tryAllocLayout E sz al s).2 = .err) :
    tryFast E (tryAllocLayout E sz al s).1.a sz' al' = tryFast E s.a sz' al' := by
  rw [(err_frame s hE h hA hlay herr).1]

/-- Fallible constructors never panic for a supported minimum alignment; infallible ones never
return; both leave only refused requests behind on failure. -/
theorem ctor_total {E M cap} (f : Bool) (s : St) (hM : IsPow2 M) (hMle : M ≤ 16) :
    (∀ w, (newArena E M cap f s).2 ≠ .bad w) ∧ (f = true → (newArena E M cap f s).2 ≠ .panic) ∧
    ((newArena E M cap f s).2 = .err ∨ (newArena E M cap f s).2 = .panic →
      ∃ refs, AllRefused refs ∧ (newArena E M cap f s).1.evs = s.evs ++ refs) :=
  let sp := newArena_spec (E := E) (cap := cap) f s hM hMle
  ⟨sp.nobad, sp.fallible, sp.fail⟩

/-- non-vacuity: a request the allocator refuses on every candidate size ends in `Err` -/
example : (tryAllocLayout 160 5000 1 { a := ⟨1, [⟨4096, 496, 16, 4096, 448⟩], none⟩, ans := [none, none, none] }).2 = .err := by decide
/-- the zero-sized over-aligned request under a tiny limit with a refusing allocator terminates (F9) -/
example : (tryAllocLayout 160 0 4096 { a := ⟨1, [], some 100⟩, ans := [] }).2 = .err := by decide

end Bump.C09

#print axioms Bump.C09.try_total
#print axioms Bump.C09.err_frame
#print axioms Bump.C09.infallible_iff
#print axioms Bump.C09.still_usable_after_err
#print axioms Bump.C09.ctor_total
