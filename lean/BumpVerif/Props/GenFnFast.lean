import BumpVerif.Props.GenFnFooter
import BumpVerif.Gen.FnFast
/-! # The translated fast path of `src/lib.rs` (`try_alloc_layout_fast`) equals the hand-written model -/
namespace Bump
open Rs Gen

/-- how the callers of the model's `tryFast` thread its result through the state -/
def fastResult (E sz al : Nat) (s : St) : St × Outcome (Option Nat) :=
  match tryFast E s.a sz al with
  | .ok none => (s, .ok none)
  | .ok (some (a', p)) => ({ s with a := a' }, .ok (some p))
  | .err => (s, .err)
  | .panic => (s, .panic)
  | .bad w => (s, .bad w)
  | .envBad => (s, .envBad)

theorem wsub_lt (a b : Nat) : wsub a b < USIZE := by
  unfold wsub; exact Nat.mod_lt _ (by unfold USIZE; omega)

def fastFinish (E al p : Nat) (c : Chunk) (s : St) : St × Outcome (Option Nat) :=
  if !fastPost s.a.M c al p then (s, .bad "fast: result assertion") else
  bindO (storePtr E s p "fast: finger of the static empty chunk moved") fun s _ => (s, .ok (some p))

theorem fastResult_eq (E sz al : Nat) (s : St) :
    fastResult E sz al s =
      if !fastPre s.a.M (s.a.cur E) then (s, .bad "fast: entry assertion") else
      if decide (al ≥ s.a.M) && (roundUpTo sz al).isNone then (s, .bad "fast: round_up_to_unchecked unreachable") else
      match allocFast s.a.M (s.a.cur E) sz al with
      | none => (s, .ok none)
      | some p => fastFinish E al p (s.a.cur E) s := by
  unfold fastResult tryFast fastFinish storePtr
  by_cases h1 : fastPre s.a.M (s.a.cur E) = true
  case neg => simp [h1]
  by_cases h2 : (decide (al ≥ s.a.M) && (roundUpTo sz al).isNone) = true
  case pos => simp [h1, h2]
  simp only [h1, h2, Bool.not_true, Bool.false_eq_true, if_false]
  cases allocFast s.a.M (s.a.cur E) sz al with
  | none => rfl
  | some p =>
    by_cases h3 : fastPost s.a.M (s.a.cur E) al p = true
    case neg => simp [h3]
    simp only [h3, Bool.not_true, Bool.false_eq_true, if_false]
    cases setCurPtr E s.a p <;> rfl

theorem gen_fast_finish (E sz al p : Nat) (b : Bool) (s : St)
    (hM : P2 s.a.M) (hal : P2 al) (hpU : p < USIZE) (hne : HeadNotStatic E s.a) :
    simS (Gen.Fn.try_alloc_layout_fast.k_1 E s.a.M ⟨sz, al⟩ (s.a.cur E) (s.a.cur E) (s.a.cur E).ptr (s.a.cur E).data b p s)
      (fastFinish E al p (s.a.cur E) s) := by
  simp only [Gen.Fn.try_alloc_layout_fast.k_1, fastFinish, gen_is_pointer_aligned_to _ _ hal hpU,
    gen_is_pointer_aligned_to _ _ hM hpU, pureO, bindO_ok, beq_iff_eq, Bool.and_eq_true, decide_eq_true_eq,
    Bool.not_eq_true', beq_eq_false_iff_ne]
  by_cases hpost : fastPost s.a.M (s.a.cur E) al p = false
  · rw [if_pos hpost]
    refine simS_assert_bad fun c1 => simS_assert_bad fun c2 => simS_assert_bad fun c34 => simS_assert_bad fun c5 => ?_
    have : fastPost s.a.M (s.a.cur E) al p = true := by
      simp only [fastPost, Bool.and_eq_true, decide_eq_true_eq]; exact ⟨⟨⟨⟨c1, c2⟩, c34.1⟩, c34.2⟩, c5⟩
    rw [hpost] at this; cases this
  · have h5 := Bool.of_not_eq_false hpost
    simp only [fastPost, Bool.and_eq_true, decide_eq_true_eq] at h5
    obtain ⟨⟨⟨⟨c1, c2⟩, c3⟩, c4⟩, c5⟩ := h5
    rw [if_pos c1, if_pos c2, if_pos ⟨c3, c4⟩, if_pos c5, if_neg hpost]
    exact simS_bind (gen_set_ptr E s.a.M p s _ hne) fun _ _ => simS_refl _

theorem gen_try_alloc_layout_fast (E sz al : Nat) (s : St)
    (hM : P2 s.a.M) (hal : P2 al) (hsz : sz < USIZE) (hp : (s.a.cur E).ptr < USIZE)
    (hne : HeadNotStatic E s.a) :
    simS (Gen.Fn.try_alloc_layout_fast E s.a.M ⟨sz, al⟩ s) (fastResult E sz al s) := by
  have hk := fun p b hpU => gen_fast_finish E sz al p b s hM hal hpU hne
  unfold Gen.Fn.try_alloc_layout_fast
  rw [fastResult_eq]
  simp only [fastPre]
  by_cases h1 : (s.a.cur E).data ≤ (s.a.cur E).ptr
  case neg => simp [h1, simS, Outcome.sim]
  by_cases h2 : (s.a.cur E).ptr ≤ (s.a.cur E).footer
  case neg => simp [h1, h2, simS, Outcome.sim]
  rw [gen_is_pointer_aligned_to _ _ hM hp]
  by_cases h3 : (s.a.cur E).ptr % s.a.M = 0
  case neg => simp [h1, h2, h3, pureO, bindO, simS, Outcome.sim]
  simp only [h1, h2, h3, decide_true, if_true, pureO, bindO, beq_self_eq_true, Bool.and_self, Bool.not_true,
    Bool.false_eq_true, if_false]
  rcases Nat.lt_trichotomy al s.a.M with hlt | heq | hgt
  · -- Ordering::Less
    have hge : ¬ al ≥ s.a.M := by omega
    simp only [Nat.compare_eq_lt.mpr hlt, gen_round_up_to sz _ hM hsz, hge, decide_false, Bool.false_and,
      Bool.false_eq_true, if_false, allocFast, hlt, if_true]
    cases roundUpTo sz s.a.M with
    | none => exact simS_refl _
    | some x =>
      simp only []
      by_cases hx : x > (s.a.cur E).ptr - (s.a.cur E).data
      · simp only [hx, decide_true, if_true]; exact simS_refl _
      · simp only [hx, decide_false, Bool.false_eq_true, if_false]; exact hk _ _ (wsub_lt _ _)
  · -- Ordering::Equal
    have hnl : ¬ al < s.a.M := by omega
    have hge : al ≥ s.a.M := by omega
    have heq2 : (al = s.a.M) = True := by simp [heq]
    simp only [Nat.compare_eq_eq.mpr heq, gen_round_up_to_unchecked sz _ hal hsz, roundUpToUnchecked, hge, decide_true,
      Bool.true_and, allocFast, hnl, if_false, heq2, if_true]
    cases roundUpTo sz al with
    | none => simp [simS, Outcome.sim]
    | some x =>
      simp only [Option.isNone_some, Bool.false_eq_true, if_false]
      by_cases hx : x > (s.a.cur E).ptr - (s.a.cur E).data
      · simp only [hx, decide_true, if_true]; exact simS_refl _
      · simp only [hx, decide_false, Bool.false_eq_true, if_false]; exact hk _ _ (wsub_lt _ _)
  · -- Ordering::Greater
    have hnl : ¬ al < s.a.M := by omega
    have hne' : ¬ al = s.a.M := by omega
    have hge : al ≥ s.a.M := by omega
    generalize hapd : wsub (s.a.cur E).ptr ((s.a.cur E).ptr % al) = ap
    rcases hr : roundUpTo sz al with _ | x
    · simp only [Nat.compare_eq_gt.mpr hgt, gen_round_up_to_unchecked sz _ hal hsz, roundUpToUnchecked, hge, decide_true,
        Bool.true_and, allocFast, hnl, hne', if_false, hr, Option.isNone_none, if_true]
      exact simS_bad _ _ _
    · simp only [Nat.compare_eq_gt.mpr hgt, gen_round_up_to_unchecked sz _ hal hsz, roundUpToUnchecked, hge, decide_true,
        Bool.true_and, allocFast, hnl, hne', if_false, gen_round_mut_ptr_down_to _ _ hal, hr, hapd, Option.isNone_some,
        Bool.false_eq_true]
      by_cases hx : ap < (s.a.cur E).data ∨ x > wsub ap (s.a.cur E).data
      · have hb : (decide (ap < (s.a.cur E).data) || decide (x > wsub ap (s.a.cur E).data)) = true := by
          rw [← Bool.decide_or]; exact decide_eq_true hx
        simp only [hb, hx, if_true]; exact simS_refl _
      · have hb : (decide (ap < (s.a.cur E).data) || decide (x > wsub ap (s.a.cur E).data)) = false := by
          rw [← Bool.decide_or]; exact decide_eq_false hx
        simp only [hb, hx, Bool.false_eq_true, if_false]; exact hk _ _ (wsub_lt _ _)

#print axioms gen_fast_finish
#print axioms gen_try_alloc_layout_fast
end Bump
