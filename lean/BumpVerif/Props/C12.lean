import BumpVerif.Proofs.Mem
import BumpVerif.Proofs.Live
/-! # C12 — the Allocator implementation obeys the allocator contract

`allocate` is `try_alloc_layout` (C01, C04, C09), `deallocate` is `dealloc`; this file covers
`grow`, `grow_zeroed` and `shrink` with arbitrary old and new layouts.
-/
namespace Bump.C12
open Bump Gen

/-- `shrink`: for every live block and every new layout with `new.size ≤ old.size` (any
alignments, zero sizes included): the result fits the new layout (aligned to `new.align` and to
`MIN_ALIGN`, `new.size` bytes inside the used part of a held chunk), every other region in a
used part that was disjoint from the old block is still in a used part and disjoint from the new
block, no assertion fires and `copy_nonoverlapping` is never applied to overlapping ranges;
on error nothing changed. -/
theorem shrink_contract {E p osz oal nsz nal} (s : St) (hE : EnvOK E) (h : ArenaWF E s.a)
    (hb : BlockOK s.a p osz oal) (hN : IsPow2 nal) (hle : nsz ≤ osz) (hlay : nsz + nal ≤ 2 ^ 63) :
    ReallocPost E s (shrink E p osz oal nsz nal s).1 p osz nsz nal (shrink E p osz oal nsz nal s).2 :=
  shrink_spec s hE h hb hN hle hlay

/-- `grow`: same contract with `new.size ≥ old.size`, in place (memmove downwards) when the
block is the last allocation and the alignment is compatible, by fresh allocation otherwise. -/
theorem grow_contract {E p osz oal nsz nal} (s : St) (hE : EnvOK E) (h : ArenaWF E s.a)
    (hb : BlockOK s.a p osz oal) (hN : IsPow2 nal) (hle : osz ≤ nsz) (hlay : nsz + nal ≤ 2 ^ 63) :
    ReallocPost E s (grow E p osz oal nsz nal s).1 p osz nsz nal (grow E p osz oal nsz nal s).2 :=
  grow_spec s hE h hb hN hle hlay

/-- contents: the first `min(old,new)` bytes are kept and nothing outside the new block changes
(so no other live block, being disjoint from it, is affected) -/
theorem realloc_keeps_prefix {E s s' p osz nsz nal q} (m : Mem) (post : ReallocPost E s s' p osz nsz nal (.ok q)) :
    (∀ i, i < min osz nsz → applyEffs m s'.mem (q + i) = applyEffs m s.mem (p + i)) ∧
    (∀ a, ¬ (q ≤ a ∧ a < q + nsz) → applyEffs m s'.mem a = applyEffs m s.mem a) :=
  realloc_contents m post

/-- `grow_zeroed`: additionally the added tail `[old.size, new.size)` reads as zero -/
theorem grow_zeroed_tail {E p osz oal nsz nal q} (m : Mem) (s : St) (hle : osz ≤ nsz)
    (hok : (step E (.agrow p osz oal nsz nal true) s).2 = .ptr q) :
    ∀ i, osz ≤ i → i < nsz → applyEffs m (step E (.agrow p osz oal nsz nal true) s).1.mem (q + i) = 0 := by
  intro i h1 h2
  simp only [step] at hok ⊢
  cases hg : grow E p osz oal nsz nal s with
  | mk s1 o1 =>
    rw [hg] at hok
    cases o1 with
    | ok q' =>
      simp only [bindO, Res.ofOutcome, ↓reduceIte, Res.ptr.injEq] at hok ⊢
      subst hok
      rw [applyEffs_append]
      simp only [applyEffs, List.foldl_cons, List.foldl_nil, applyEff]
      rw [if_pos ⟨by omega, by omega⟩]
    | _ => cases hok

/-- on error the original block is untouched and still owned by the caller: arena and memory are
exactly as before -/
theorem realloc_err_frame {E s s' p osz nsz nal} (post : ReallocPost E s s' p osz nsz nal .err) :
    s'.a = s.a ∧ s'.mem = s.mem := ⟨(post.err rfl).1, (post.err rfl).2.1⟩

/-- `deallocate` accepts any live block in any order, keeps the invariant, and every other
`MIN_ALIGN`-aligned region in a used part that was disjoint from the block stays in a used part -/
theorem dealloc_contract {E p sz oal} (s : St) (hE : EnvOK E) (h : ArenaWF E s.a) (hb : BlockOK s.a p sz oal) :
    (dealloc E p sz s).2 = .ok () ∧ ArenaWF E (dealloc E p sz s).1.a ∧ (dealloc E p sz s).1.mem = s.mem ∧
    ∀ b bn, 0 < bn → InChunk s.a b bn → s.a.M ∣ b → (sz = 0 ∨ Disj b bn p sz) → InChunk (dealloc E p sz s).1.a b bn := by
  obtain ⟨h1, h2, _, h3, h4⟩ := Bump.dealloc_frame s hE h hb
  exact ⟨h1, h2, h3, h4⟩

example : (shrink 160 4500 100 1 50 1 { a := ⟨1, [⟨4096, 560, 16, 4500, 512⟩], none⟩, ans := [] }).2 = .ok 4550 := by decide
example : (shrink 160 4500 100 1 51 1 { a := ⟨1, [⟨4096, 560, 16, 4500, 512⟩], none⟩, ans := [] }).2 = .ok 4500 := by decide
example : (grow 160 4500 10 1 11 1 { a := ⟨1, [⟨4096, 560, 16, 4500, 512⟩], none⟩, ans := [] }).2 = .ok 4499 := by decide

end Bump.C12

#print axioms Bump.C12.shrink_contract
#print axioms Bump.C12.grow_contract
#print axioms Bump.C12.realloc_keeps_prefix
#print axioms Bump.C12.grow_zeroed_tail
#print axioms Bump.C12.realloc_err_frame
#print axioms Bump.C12.dealloc_contract
