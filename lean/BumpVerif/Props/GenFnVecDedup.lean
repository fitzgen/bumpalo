import BumpVerif.Props.GenFnVec
import BumpVerif.Proofs.VecDedup
/-!
# `partition_dedup_by` / `Vec::dedup_by` as translated = the model's `dedupLoop` / `dedupBy`

The source's `while next_read < len` loop is translated as a fuel-recursive function started with `2^64` units of fuel;
the model's loop carries `len` units.  Both have enough: the loop lemma is by induction on the model's fuel for *any*
translation fuel above `len - next_read`.  The closure is data (`cb k a b` = the answer of its `k`-th call, `none` = that
call panics); that it may also write through the two `&mut T` it is handed is not modelled.
-/
namespace Bump.V
open Bump Rs RsV RsM

/-- a run `g` of the translated loop against the model's result `m`, both started with effects `w`: the same slots and write index
when the loop returned and when the callback unwound, nothing recorded; or `g` stopped at a read that the model flags -/
def dedupRel (vlen cap : Nat) (w : W) (g : VW × Outcome (Nat × Nat × Nat)) (m : List (Option Elem) × Nat × W × Bool) : Prop :=
  (m.2.2.1 = w ∧ m.2.1 ≤ vlen ∧
    (m.2.2.2 = true → ∃ r' calls', g = ((⟨m.1, vlen, cap⟩, w), .ok (r', m.2.1, calls'))) ∧
    (m.2.2.2 = false → g = ((⟨m.1, vlen, cap⟩, w), .panic))) ∨
  (w.bad.length < m.2.2.1.bad.length ∧ ∃ s' why, g = (s', .bad why) ∧ s'.2.bad = w.bad)

theorem gen_dedup_loop (c : Cfg) (cb : Nat → Elem → Elem → Option Bool) (vlen cap : Nat) (hv : vlen < USIZE) :
    ∀ (f F : Nat) (slots : List (Option Elem)) (r wr calls : Nat) (w : W),
      vlen - r < f → vlen - r < F → 1 ≤ wr → wr ≤ r → r ≤ vlen →
      dedupRel vlen cap w (Gen.Fn.vec_partition_dedup_by.loop_1 c (0, vlen) cb vlen 0 F r wr calls (⟨slots, vlen, cap⟩, w))
        (dedupLoop cb vlen f slots r wr calls w) := by
  intro f
  induction f with
  | zero => intro F slots r wr calls w h; omega
  | succ f ih =>
    intro F slots r wr calls w hf hF h1 hwr hr
    cases F with
    | zero => omega
    | succ F =>
      unfold Gen.Fn.vec_partition_dedup_by.loop_1 dedupLoop
      by_cases hlt : r < vlen
      · have a1 : vlen - (r + 1) < f := by omega
        have a2 : vlen - (r + 1) < F := by omega
        have hr1 : r + 1 < USIZE := Nat.lt_of_le_of_lt hlt hv
        have hw1 : wr + 1 < USIZE := Nat.lt_of_le_of_lt (Nat.succ_le_succ hwr) hr1
        rw [if_pos (decide_eq_true hlt), if_neg (not_not_intro hlt)]
        unfold RsM.read VS.read
        dsimp only
        rw [if_pos h1, Nat.zero_add, Nat.zero_add]
        cases (slots[r]?).join with
        | none => exact Or.inr ⟨w.lt_flag _, by cases (slots[wr - 1]?).join <;> exact ⟨_, _, rfl, rfl⟩⟩
        | some a =>
          cases (slots[wr - 1]?).join with
          | none => exact Or.inr ⟨w.lt_flag _, _, _, rfl, rfl⟩
          | some b =>
            dsimp only
            cases cb calls a b with
            | none => exact Or.inl ⟨rfl, Nat.le_trans hwr hr, fun h => Bool.noConfusion h, fun _ => rfl⟩
            | some ans =>
              dsimp only
              rw [Nat.sub_add_cancel h1]
              cases ans with
              | true =>
                rw [if_neg (show ¬ (!true) = true from Bool.false_ne_true)]
                dsimp only
                rw [if_pos hr1]
                exact ih F slots (r + 1) wr (calls + 1) w a1 a2 h1 (Nat.le_succ_of_le hwr) hlt
              | false =>
                rw [if_pos (show (!false) = true from rfl)]
                by_cases hne : r = wr
                · rw [if_neg (not_not_intro hne), if_neg (mt bne_iff_ne.mp (not_not_intro hne)), if_pos hw1, if_pos hr1]
                  exact ih F slots (r + 1) (wr + 1) (calls + 1) w a1 a2 (Nat.le_add_left 1 wr) (Nat.succ_le_succ hwr) hlt
                · rw [if_pos hne, if_pos (bne_iff_ne.mpr hne)]
                  dsimp only [RsM.swap, bindW]
                  rw [if_pos hw1, if_pos hr1]
                  exact ih F (swapSlots slots r wr) (r + 1) (wr + 1) (calls + 1) w a1 a2 (Nat.le_add_left 1 wr) (Nat.succ_le_succ hwr) hlt
      · rw [if_neg (mt of_decide_eq_true hlt), if_pos hlt]
        exact Or.inl ⟨rfl, Nat.le_trans hwr hr, fun _ => ⟨r, calls, rfl⟩, fun h => by cases h⟩

theorem gen_vec_partition_dedup_by (c : Cfg) (cb : Nat → Elem → Elem → Option Bool) (slots : List (Option Elem)) (vlen cap : Nat) (w : W)
    (hv : vlen < USIZE) (h2 : ¬ vlen ≤ 1) :
    ((dedupLoop cb vlen vlen slots 1 1 0 w).2.2.1 = w ∧
      ((dedupLoop cb vlen vlen slots 1 1 0 w).2.2.2 = true →
        Gen.Fn.vec_partition_dedup_by c (0, vlen) cb (⟨slots, vlen, cap⟩, w) =
          ((⟨(dedupLoop cb vlen vlen slots 1 1 0 w).1, vlen, cap⟩, w),
            .ok ((0, (dedupLoop cb vlen vlen slots 1 1 0 w).2.1),
                 (0 + (dedupLoop cb vlen vlen slots 1 1 0 w).2.1, vlen - (dedupLoop cb vlen vlen slots 1 1 0 w).2.1)))) ∧
      ((dedupLoop cb vlen vlen slots 1 1 0 w).2.2.2 = false →
        Gen.Fn.vec_partition_dedup_by c (0, vlen) cb (⟨slots, vlen, cap⟩, w) =
          ((⟨(dedupLoop cb vlen vlen slots 1 1 0 w).1, vlen, cap⟩, w), .panic))) ∨
    (w.bad.length < (dedupLoop cb vlen vlen slots 1 1 0 w).2.2.1.bad.length ∧
      ∃ s' why, Gen.Fn.vec_partition_dedup_by c (0, vlen) cb (⟨slots, vlen, cap⟩, w) = (s', .bad why) ∧ s'.2.bad = w.bad) := by
  unfold Gen.Fn.vec_partition_dedup_by
  dsimp only
  rw [if_neg (mt of_decide_eq_true h2)]
  rcases gen_dedup_loop c cb vlen cap hv vlen USIZE slots 1 1 0 w (by omega) (by omega) (Nat.le_refl 1) (Nat.le_refl 1) (by omega)
    with ⟨hw, hle, hok, hpanic⟩ | ⟨hlt, s', why, hg, hb⟩
  · refine Or.inl ⟨hw, fun h => ?_, fun h => ?_⟩
    · obtain ⟨r', calls', hg⟩ := hok h
      rw [hg, bindW_ok]
      exact if_pos (decide_eq_true hle)
    · rw [hpanic h]; rfl
  · rw [hg]
    exact Or.inr ⟨hlt, s', why, rfl, hb⟩

theorem gen_vec_dedup_by (c : Cfg) (v : VS) (cb : Nat → Elem → Elem → Option Bool) (w : W) (hv : v.len < USIZE) :
    agree w (toModel (Gen.Fn.vec_dedup_by c cb (v, w))) (V.dedupBy c v cb w) := by
  obtain ⟨slots, vlen, cap⟩ := v
  unfold Gen.Fn.vec_dedup_by
  rw [dedupBy_unfold]
  dsimp only
  by_cases h2 : vlen ≤ 1
  · unfold Gen.Fn.vec_partition_dedup_by
    dsimp only
    rw [if_pos h2, if_pos (decide_eq_true h2), bindW_ok, bindW_ok_id]
    exact gen_vec_truncate c _ vlen w
  · rw [if_neg h2]
    rcases gen_vec_partition_dedup_by c cb slots vlen cap w hv h2 with ⟨hw, hok, hpanic⟩ | ⟨hlt, s', why, hg, hb⟩
    · cases hk : (dedupLoop cb vlen vlen slots 1 1 0 w).2.2.2 with
      | false =>
        rw [hpanic hk, hw]
        exact Or.inl rfl
      | true =>
        rw [hok hk, hw, bindW_ok, bindW_ok_id]
        exact gen_vec_truncate c _ _ w
    · rw [hg]
      refine Or.inr ⟨hb ▸ s'.2.lt_flag why, ?_⟩
      -- the model went on after the flagged read; truncation keeps the flag
      cases (dedupLoop cb vlen vlen slots 1 1 0 w).2.2.2 with
      | false => exact hlt
      | true => exact Nat.lt_of_lt_of_le hlt (truncate_bad_mono c _ _ _)

#print axioms gen_dedup_loop
#print axioms gen_vec_partition_dedup_by
#print axioms gen_vec_dedup_by

end Bump.V
