import BumpVerif.Props.GenFnFooter
import BumpVerif.Gen.FnIter
/-! # Chunk iteration as translated (`ChunkRawIter::next`, `ChunkFooter::as_raw_parts`) yields the model's `iterChunks`

`iter_allocated_chunks_raw` starts at the current footer and calls `next` until it returns `None`.  The model's
iteration is `iterChunks a = a.chunks.map (fun c => (c.ptr, c.footer - c.ptr))`. -/
namespace Bump
open Rs Gen

def iterRun (E M : Nat) (s : St) : Nat → Chunk → Outcome (List (Nat × Nat))
  | 0, _ => .ok []
  | fuel + 1, pos =>
    bindP (Gen.Fn.chunk_raw_iter_next E M pos s) fun r =>
      match r.1 with
      | none => .ok []
      | some it => bindP (iterRun E M s fuel r.2) fun rest => .ok (it :: rest)

structure IterOK (E : Nat) (cs : List Chunk) : Prop where
  notStatic : ∀ c ∈ cs, c.footer ≠ E
  distinct : cs.Pairwise (fun c d => c.footer ≠ d.footer)
  inside : ∀ c ∈ cs, c.data ≤ c.ptr ∧ c.ptr ≤ c.footer

theorem IterOK.tail {E c cs} (h : IterOK E (c :: cs)) : IterOK E cs :=
  ⟨fun d hd => h.notStatic d (List.mem_cons_of_mem _ hd), (List.pairwise_cons.1 h.distinct).2,
   fun d hd => h.inside d (List.mem_cons_of_mem _ hd)⟩

theorem prevIn_skip (d : Chunk) (pre : List Chunk) (c : Chunk) (rest : List Chunk)
    (hpre : ∀ p ∈ pre, p.footer ≠ c.footer) :
    prevIn c.footer d (pre ++ c :: rest) = rest.headD d := by
  induction pre with
  | nil =>
    show prevIn c.footer d (c :: rest) = _
    rw [prevIn]
    simp only [beq_self_eq_true, if_true]
  | cons p ps ih =>
    have hp : p.footer ≠ c.footer := hpre p (by simp)
    show prevIn c.footer d (p :: (ps ++ c :: rest)) = _
    rw [prevIn]
    have hb : (p.footer == c.footer) = false := by simpa using hp
    simp only [hb, Bool.false_eq_true, if_false]
    exact ih (fun q hq => hpre q (List.mem_cons_of_mem _ hq))

theorem next_static (E M : Nat) (s : St) :
    Gen.Fn.chunk_raw_iter_next E M (emptyChunk E) s = .ok (none, emptyChunk E) := by
  simp only [Gen.Fn.chunk_raw_iter_next, Gen.Fn.is_empty, bindP, beq_self_eq_true, if_true]

theorem iterRun_succ (E M : Nat) (s : St) (fuel : Nat) (pos : Chunk) :
    iterRun E M s (fuel + 1) pos =
      bindP (Gen.Fn.chunk_raw_iter_next E M pos s) fun r =>
        match r.1 with
        | none => .ok []
        | some it => bindP (iterRun E M s fuel r.2) fun rest => .ok (it :: rest) := rfl

theorem next_chunk (E M : Nat) (s : St) (pre : List Chunk) (c : Chunk) (rest : List Chunk) (hs : s.a.chunks = pre ++ c :: rest)
    (hok : IterOK E (pre ++ c :: rest)) :
    Gen.Fn.chunk_raw_iter_next E M c s = .ok (some (c.ptr, c.footer - c.ptr), rest.headD (emptyChunk E)) := by
  have hmem : c ∈ pre ++ c :: rest := by simp
  have hns : c.footer ≠ E := hok.notStatic c hmem
  obtain ⟨hin1, hin2⟩ := hok.inside c hmem
  have hprev : chunk_prev E s c = rest.headD (emptyChunk E) := by
    unfold chunk_prev; rw [hs]
    exact prevIn_skip _ pre c rest fun p hp => (List.pairwise_append.1 hok.distinct).2.2 p hp c (by simp)
  simp only [Gen.Fn.chunk_raw_iter_next, Gen.Fn.is_empty, Gen.Fn.as_raw_parts, bindP, emptyChunk_footer, beq_iff_eq, hns,
    if_false, hin1, hin2, decide_true, if_true, hprev]

theorem iterRun_suffix (E M : Nat) (s : St) (pre suf : List Chunk) (hs : s.a.chunks = pre ++ suf)
    (hok : IterOK E (pre ++ suf)) :
    iterRun E M s (suf.length + 1) (suf.headD (emptyChunk E)) = .ok (suf.map (fun c => (c.ptr, c.footer - c.ptr))) := by
  induction suf generalizing pre with
  | nil =>
    show iterRun E M s (0 + 1) (emptyChunk E) = _
    rw [iterRun_succ, next_static]
    rfl
  | cons c rest ih =>
    have hih := ih (pre ++ [c]) (by simp [hs]) (by simpa using hok)
    show iterRun E M s ((rest.length + 1) + 1) c = _
    rw [iterRun_succ, next_chunk E M s pre c rest hs hok]
    simp only [bindP, hih, List.map_cons]

theorem gen_iter_chunks (E M : Nat) (s : St) (hok : IterOK E s.a.chunks) :
    iterRun E M s (s.a.chunks.length + 1) (s.a.cur E) = .ok (iterChunks s.a) := by
  have := iterRun_suffix E M s [] s.a.chunks (by simp) (by simpa using hok)
  simpa [Arena.cur, iterChunks] using this

theorem IterOK.of_wf {E : Nat} {a : Arena} (h : ArenaWF E a) : IterOK E a.chunks := by
  have hF := FS
  refine ⟨fun _ hc => footer_ne_static h hc, ?_, ?_⟩
  · refine h.disj.imp_of_mem ?_
    intro c d hc hd hdisj
    have hwc := h.chunks c hc
    have hwd := h.chunks d hd
    have := hwc.size_ge; have := hwd.size_ge
    unfold Disj at hdisj
    unfold Chunk.footer
    omega
  · intro c hc
    exact ⟨(h.chunks c hc).ptr_ge, (h.chunks c hc).ptr_le⟩

theorem gen_iter_chunks_wf (E M : Nat) (s : St) (h : ArenaWF E s.a) :
    iterRun E M s (s.a.chunks.length + 1) (s.a.cur E) = .ok (iterChunks s.a) :=
  gen_iter_chunks E M s (IterOK.of_wf h)

/-- the safe iterator (`ChunkIter::next`) yields exactly what the raw one yields, and moves as it moves -/
theorem gen_chunk_iter_next (E M : Nat) (c : Chunk) (s : St) :
    Gen.Fn.chunk_iter_next E M c s = Gen.Fn.chunk_raw_iter_next E M c s := by
  unfold Gen.Fn.chunk_iter_next
  cases h : Gen.Fn.chunk_raw_iter_next E M c s with
  | ok r =>
    obtain ⟨o, c'⟩ := r
    cases o with
    | none => rfl
    | some it => rfl
  | err => rfl
  | panic => rfl
  | bad w => rfl
  | envBad => rfl

theorem gen_iter_allocated_chunks_raw (E M : Nat) (s : St) : Gen.Fn.iter_allocated_chunks_raw E M s = .ok (s.a.cur E) := rfl
theorem gen_iter_allocated_chunks (E M : Nat) (s : St) : Gen.Fn.iter_allocated_chunks E M s = .ok (s.a.cur E) := rfl

#print axioms gen_chunk_iter_next
#print axioms gen_iter_allocated_chunks
#print axioms gen_iter_chunks
#print axioms gen_iter_chunks_wf
end Bump
