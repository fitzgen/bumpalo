import BumpVerif.Props.GenFnNewChunk
import BumpVerif.Props.GenFnDetails
import BumpVerif.Gen.FnCtor
/-! # The translated constructors of `Bump` equal the hand-written model `newArena`

`new`, `try_new`, `with_capacity`, `try_with_capacity` (on `Bump<1>`), `with_min_align`,
`with_min_align_and_capacity`, `try_with_min_align_and_capacity`, `Default::default`.  The assertions on `MIN_ALIGN`
(power of two, at most `CHUNK_ALIGN`) are part of the translated bodies: a constructor that lost them no longer equals
`newArena`. -/
namespace Bump
open Rs Gen

theorem mkArena_static (E M : Nat) (l : Option Nat) : mkArena E M (emptyChunk E) l = ⟨M, [], l⟩ := by
  simp [mkArena]

theorem gen_try_with_min_align_and_capacity (E M cap : Nat) (s : St) (hs : s.a.chunks = []) (hcap : cap < USIZE) :
    simS (Gen.Fn.try_with_min_align_and_capacity E M cap s) (newArena E M cap true s) := by
  unfold Gen.Fn.try_with_min_align_and_capacity newArena
  by_cases hbad : (!isPow2 M || decide (M > CHUNK_ALIGN)) = true
  · rw [if_pos hbad]
    by_cases hp : isPow2 M = true
    · rw [if_pos hp, if_neg (by simpa [hp] using hbad)]; exact simS_refl _
    · rw [if_neg hp]; exact simS_refl _
  obtain ⟨hp, hle⟩ : isPow2 M = true ∧ M ≤ CHUNK_ALIGN := by simpa using hbad
  have hM : P2 M := ⟨hp, by have : CHUNK_ALIGN = 16 := rfl; unfold USIZE; omega⟩
  rw [if_neg hbad, if_pos hp, if_pos (decide_eq_true hle)]
  by_cases h0 : cap = 0
  · subst h0; rw [if_pos (show (0 == 0) = true from rfl), if_pos rfl, mkArena_static]; exact simS_refl _
  have hb0 : ¬ (cap == 0) = true := by simpa using h0
  rw [if_neg hb0, if_neg h0, gen_layout_from_size_align]
  by_cases hv : validLayout cap M = true
  case neg =>
    have hv' : (!validLayout cap M) = true := by simpa using hv
    rw [if_neg hv, if_pos hv']; exact simS_refl _
  have hv' : ¬ (!validLayout cap M) = true := by simp [hv]
  rw [if_pos hv, if_neg hv']
  dsimp only [reify, pureO_ok]
  refine simS_trans (simS_pureO_left s _ (gen_new_chunk_memory_details M none cap M hM hM hcap)) ?_
  cases hm : newChunkMemoryDetails M none cap M with
  | ok d =>
    refine simS_bind_of (hs ▸ gen_new_chunk E M d cap M (emptyChunk E) s hM (details_size hm)) fun s' oc hoc => ?_
    cases oc with
    | none => exact simS_refl _
    | some c =>
      dsimp only
      rw [mkArena, if_neg (by simpa using newChunk_footer_ne (details_size hm) hoc)]
      exact simS_refl _
  | _ => exact simS_refl _

theorem newArena_infallible (E M cap : Nat) (s : St) :
    newArena E M cap false s = errToPanic (newArena E M cap true s) := by
  unfold newArena errToPanic
  by_cases h1 : (!isPow2 M || decide (M > CHUNK_ALIGN)) = true
  · simp [h1]
  simp only [h1, Bool.false_eq_true, if_false]
  by_cases h2 : cap = 0
  · simp [h2]
  simp only [h2, if_false]
  by_cases h3 : validLayout cap M = true
  case neg => simp [h3]
  simp only [h3, Bool.not_true, Bool.false_eq_true, if_false, if_true]
  cases newChunkMemoryDetails M none cap M with
  | ok d =>
    simp only [bindO]
    have hne := newChunk_ne_err E [] M d cap 0 s
    generalize newChunk E [] M d cap 0 s = m at hne
    obtain ⟨ms, mo⟩ := m
    cases mo with
    | ok oc => cases oc <;> simp
    | err => exact absurd rfl hne.1
    | panic => exact absurd rfl hne.2
    | _ => simp
  | _ => simp

theorem gen_with_min_align_and_capacity (E M cap : Nat) (s : St) (hs : s.a.chunks = []) (hcap : cap < USIZE) :
    simS (Gen.Fn.with_min_align_and_capacity E M cap s) (newArena E M cap false s) := by
  rw [Gen.Fn.with_min_align_and_capacity, bindO_reifyS_panic, newArena_infallible]
  exact simS_errToPanic (gen_try_with_min_align_and_capacity E M cap s hs hcap)

theorem gen_with_min_align (E M : Nat) (s : St) :
    Gen.Fn.with_min_align E M s = newArena E M 0 false s := by
  unfold Gen.Fn.with_min_align newArena
  by_cases hp : isPow2 M = true
  case neg => simp [hp]
  by_cases hle : M ≤ CHUNK_ALIGN
  · have : ¬ M > CHUNK_ALIGN := by omega
    simp [hp, hle, this, mkArena_static]
  · have : M > CHUNK_ALIGN := by omega
    simp [hp, hle, this]

/-- `Default::default()` is `with_min_align()`, assertions included -/
theorem gen_default (E M : Nat) (s : St) : Gen.Fn.default_ E M s = newArena E M 0 false s := by
  rw [Gen.Fn.default_, bindO_pure, gen_with_min_align]

theorem gen_try_with_capacity (E cap : Nat) (s : St) (hs : s.a.chunks = []) (hcap : cap < USIZE) :
    simS (Gen.Fn.try_with_capacity E 1 cap s) (newArena E 1 cap true s) := by
  rw [Gen.Fn.try_with_capacity, bindO_reifyS_err]
  exact gen_try_with_min_align_and_capacity E 1 cap s hs hcap

theorem gen_with_capacity (E cap : Nat) (s : St) (hs : s.a.chunks = []) (hcap : cap < USIZE) :
    simS (Gen.Fn.with_capacity E 1 cap s) (newArena E 1 cap false s) := by
  rw [Gen.Fn.with_capacity, bindO_reifyS_panic, newArena_infallible]
  exact simS_errToPanic (gen_try_with_capacity E cap s hs hcap)

theorem gen_try_new (E : Nat) (s : St) (hs : s.a.chunks = []) :
    simS (Gen.Fn.try_new E 1 s) (newArena E 1 0 true s) := by
  rw [Gen.Fn.try_new, bindO_reifyS_err]
  exact gen_try_with_capacity E 0 s hs (by unfold USIZE; omega)

theorem gen_new (E : Nat) (s : St) (hs : s.a.chunks = []) :
    simS (Gen.Fn.new E 1 s) (newArena E 1 0 false s) := by
  rw [Gen.Fn.new, bindO_pure]
  exact gen_with_capacity E 0 s hs (by unfold USIZE; omega)

#print axioms gen_try_with_min_align_and_capacity
#print axioms gen_with_min_align_and_capacity
#print axioms gen_with_min_align
#print axioms gen_default
#print axioms gen_try_with_capacity
#print axioms gen_with_capacity
#print axioms gen_try_new
#print axioms gen_new
end Bump
