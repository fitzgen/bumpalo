import BumpVerif.Proofs.VecNth
import BumpVerif.Proofs.VecFilter
import BumpVerif.Proofs.VecResize
import BumpVerif.Proofs.VecCopy
import BumpVerif.Proofs.VecDedupPure
import BumpVerif.Proofs.VecMacro
import BumpVerif.Proofs.VecSplice
/-!
# C13 (Vec part) — `bumpalo::collections::Vec` refines the `List` specification

Abstraction: `abs v = (v.slots.take v.len).filterMap id` (`Bump.V.abs`); `RepB c v xs` says that
`v` represents `xs` (`abs v = xs`, every slot below `len` initialised, `len ≤ capacity()`, the
buffer has `cap` slots, machine bounds on `cap`); `RepB c v xs → abs v = xs ∧ len ≤ capacity()`
(`C13_rep_abs`).  For each method: the result represents `specM xs`, the returned value is the
spec's, and it panics exactly when the spec's precondition fails (index out of range, or the
growth is refused: capacity overflow / the arena refuses).  All statements hold for every
`Cfg` (sized and zero-sized elements, both overflow-check settings `ovf`, both debug settings `dbg`).

One theorem `C13_<method>` per method of the property's list (`reserve` stands for reserve /
reserve_exact / try_reserve(_exact); `extend` also for from_iter_in / collect_in); the lemmas behind
them are in `Proofs/Vec*.lean`.
* For splice, extend / from_iter_in, extend_from_slice, clone, resize (growing) and vec!,
  "does not panic" is stated under `GrowOK c N` (the arena serves every buffer of up to `2·N`
  elements, `N` ≥ the final length — plus the iterator's claimed `size_hint`, which the code reserves
  blindly): a sufficient condition, not the exact one — the exact refusal condition of each individual
  reservation is the one of `C13_reserve`.
* Not proved here: `dedup*` with a comparison that depends on the call index or panics is
  covered by C15/C16 only (permutation + no leak), not by a contents theorem; `resize` shrinking /
  `truncate` with panicking destructors likewise (`C16_truncate`).
-/
namespace Bump.V.C13
open Bump Bump.V

/-- the representation relation determines the abstraction -/
theorem C13_rep_abs {c : Cfg} {v : VS} {xs : List Elem} (h : RepB c v xs) : abs v = xs ∧ v.len ≤ capOf c v :=
  ⟨h.toRep.abs_eq, h.lenCap⟩

/-- `reserve(n)` / `try_reserve(n)` (amortized or exact) that returns: contents unchanged,
`capacity() ≥ len + n`, and the new `cap` is `len + n` (exact) or `max(2·cap, len + n)` -/
theorem C13_reserve {c : Cfg} {v v' : VS} {xs : List Elem} {n : Nat} {exact : Bool} (hc : CfgOK c) (h : RepB c v xs)
    (hr : reserveOp c v n exact = .ok v') :
    RepB c v' xs ∧ v.len + n ≤ capOf c v' ∧
      (v' = v ∨ (c.esz ≠ 0 ∧ capOf c v < v.len + n ∧ v'.cap = (if exact then v.len + n else max (v.cap * 2) (v.len + n)))) :=
  reserveGen_ok hc h (Nat.le_refl _) h.lenCap hr

/-- `push` appends, or panics because the growth was refused (then nothing changes and the
value is dropped by the unwinding) -/
theorem C13_push {c : Cfg} {v : VS} {xs : List Elem} (hc : CfgOK c) (h : RepB c v xs) (e : Elem) (w : W) :
    (∃ v', push c v e w = (v', w, some ()) ∧ RepB c v' (xs ++ [e])) ∨
    (push c v e w = (v, (dropElem c w e).1, none) ∧ v.len = capOf c v ∧ rawReserve c v v.len 1 = none) :=
  push_spec hc h e w

/-- `pop` returns the last element (or `None` on an empty vector) and never panics -/
theorem C13_pop {c : Cfg} {v : VS} {xs : List Elem} (h : RepB c v xs) (w : W) :
    (xs = [] ∧ pop v w = (v, w, none)) ∨
    (∃ (hne : xs ≠ []) (v' : VS), pop v w = (v', w.moved (xs.getLast hne), some (xs.getLast hne)) ∧ RepB c v' xs.dropLast) :=
  pop_spec h w

/-- `insert(i, e)`: panics iff `i > len` (or the growth is refused); else `e` lands at `i`
(`xs.take i ++ e :: xs.drop i = xs.insertIdx i e`) -/
theorem C13_insert {c : Cfg} {v : VS} {xs : List Elem} (hc : CfgOK c) (h : RepB c v xs) (i : Nat) (e : Elem) (w : W) :
    (i ≤ xs.length ∧ ∃ v', insert c v i e w = (v', w, some ()) ∧ RepB c v' (xs.take i ++ e :: xs.drop i)) ∨
    (insert c v i e w = (v, (dropElem c w e).1, none) ∧
      (xs.length < i ∨ (v.len = capOf c v ∧ rawReserve c v v.len 1 = none))) :=
  insert_spec hc h i e w

/-- `remove(i)`: panics iff `i ≥ len` (nothing changes); else returns `xs[i]`, leaves `xs.eraseIdx i` -/
theorem C13_remove {c : Cfg} {v : VS} {xs : List Elem} (h : RepB c v xs) (i : Nat) (w : W) :
    (∃ (hi : i < xs.length) (v' : VS), remove c v i w = (v', w.moved xs[i], some xs[i]) ∧ RepB c v' (xs.eraseIdx i)) ∨
    (xs.length ≤ i ∧ remove c v i w = (v, w, none)) :=
  remove_spec h i w

/-- `swap_remove(i)`: panics iff `i ≥ len`; else returns `xs[i]` and the last element takes its place -/
theorem C13_swap_remove {c : Cfg} {v : VS} {xs : List Elem} (h : RepB c v xs) (i : Nat) (w : W) :
    (∃ (hi : i < xs.length) (v' : VS), swapRemove c v i w = (v', w.moved xs[i], some xs[i]) ∧
        RepB c v' ((xs.set i (xs.getLast (by intro h0; simp [h0] at hi))).dropLast)) ∨
    (xs.length ≤ i ∧ swapRemove c v i w = (v, w, none)) :=
  swapRemove_spec h i w

/-- `truncate(n)` with destructors that do not panic: keeps `xs.take n`, drops the rest (from
the back), never panics -/
theorem C13_truncate {c : Cfg} {v : VS} {xs : List Elem} (h : RepB c v xs) (n : Nat) (w : W) (hnp : c.dropPanicAt = none) :
    ∃ (v' : VS) (w' : W), truncate c v n w = (v', w', some ()) ∧ RepB c v' (xs.take n) ∧
      w'.evs = w.evs ++ dropEvs c (xs.drop n).reverse ∧ w'.bad = w.bad :=
  let ⟨v', w', hp, hr, hev, hb, _⟩ := truncate_noPanic h n w hnp
  ⟨v', w', hp, hr, hev, hb⟩

/-- `clear()` = `truncate(0)` -/
theorem C13_clear {c : Cfg} {v : VS} {xs : List Elem} (h : RepB c v xs) (w : W) (hnp : c.dropPanicAt = none) :
    ∃ (v' : VS) (w' : W), clear c v w = (v', w', some ()) ∧ RepB c v' [] ∧ w'.evs = w.evs ++ dropEvs c xs.reverse := by
  obtain ⟨v', w', hp, hr, hev, _⟩ := C13_truncate h 0 w hnp
  exact ⟨v', w', hp, by simpa using hr, by simpa using hev⟩

/-- `drain_filter(f)` for a predicate that is a function of the element (and destructors that
do not panic): exactly the elements satisfying `f` are removed, in order, also when the
iterator is dropped after `take` calls of `next()` — the first `take` of them are returned, the
others dropped by its destructor; the rest stays in order.  Never panics. -/
theorem C13_drain_filter {c : Cfg} {v : VS} {xs : List Elem} (h : RepB c v xs) (f : Elem → Bool) (take : Nat) (w : W)
    (hnp : c.dropPanicAt = none) :
    ∃ v' w', drainFilterOp c v (fun _ e => some (f e)) take false w = (v', w', some ((xs.filter f).take take)) ∧
      RepB c v' (xs.filter (fun e => !f e)) ∧
      w'.evs = w.evs ++ movedEvs ((xs.filter f).take take) ++ dropEvs c ((xs.filter f).drop take) ∧ w'.bad = w.bad :=
  drainFilterOp_pure h f take w hnp

/-- `retain(f)` keeps exactly `xs.filter f`, drops the others in order, never panics -/
theorem C13_retain {c : Cfg} {v : VS} {xs : List Elem} (h : RepB c v xs) (f : Elem → Bool) (w : W)
    (hnp : c.dropPanicAt = none) :
    ∃ v' w', retain c v (fun _ e => some (f e)) w = (v', w', some ()) ∧ RepB c v' (xs.filter f) ∧
      w'.evs = w.evs ++ dropEvs c (xs.filter (fun e => !f e)) ∧ w'.bad = w.bad :=
  retain_pure h f w hnp

/-- `drain(range)` panics — before touching anything — exactly when the range is not
acceptable: a bound of `usize::MAX` that would have to be incremented, `start > end`, or
`end > len` (`DrainOK` spells this out) -/
theorem C13_drain_panics {c : Cfg} {v : VS} {xs : List Elem} (h : RepB c v xs) {s e : Bd}
    (hbad : ¬ ∃ st en, DrainOK c xs.length s e st en) (take back : Nat) (forget : Bool) (w : W) :
    drainOp c v s e take back forget w = (v, w, none) := by
  apply drainOp_panics
  rw [h.len]; exact hbad

/-- the acceptable ranges are the same in every build profile: `Included(usize::MAX)` as end
(or `Excluded(usize::MAX)` as start) is rejected with and without overflow checks (F7: before the fix in
/repo, 894a021, the bound wrapped to 0 without overflow checks) -/
theorem C13_drain_range_all_profiles (c c' : Cfg) (len : Nat) (s e : Bd) (st en : Nat) :
    DrainOK c len s e st en ↔ DrainOK c' len s e st en := by
  have h1 : rangeStart c s = rangeStart c' s := by cases s <;> rfl
  have h2 : rangeEnd c len e = rangeEnd c' len e := by cases e <;> rfl
  simp [DrainOK, h1, h2]

theorem C13_drain_max_rejected (c : Cfg) (len st en : Nat) (s : Bd) : ¬ DrainOK c len s (.inc USIZE_MAX) st en := by
  intro h; have := h.2.1; simp [rangeEnd, succU, USIZE_MAX, USIZE] at this

/-- `drain(st..en)` on an acceptable range, iterator used `take` times from the front and
`back` times from the back and then dropped (destructors do not panic): those items are
returned in that order, the rest of the range is dropped, the vector keeps
`xs.take st ++ xs.drop en` -/
theorem C13_drain {c : Cfg} {v : VS} {xs : List Elem} (h : RepB c v xs) {s e : Bd} {st en : Nat}
    (hok : DrainOK c xs.length s e st en) (take back : Nat) (w : W) (hnp : c.dropPanicAt = none) :
    let k1 := min take (en - st)
    let k2 := min back (en - (st + k1))
    let front := (xs.drop st).take k1
    let backs := ((xs.take en).drop (en - k2)).reverse
    let left := (xs.drop (st + k1)).take (en - k2 - (st + k1))
    ∃ v' w', drainOp c v s e take back false w = (v', w', some (front ++ backs)) ∧ RepB c v' (xs.take st ++ xs.drop en) ∧
      w'.evs = w.evs ++ movedEvs (front ++ backs) ++ dropEvs c left ∧ w'.bad = w.bad := by
  intro k1 k2 front backs left
  obtain ⟨v', w', r, kd, fin, hrun, _, hev, hb, _, _, _, hfin, _, hnp', hrep⟩ := drainOp_spec h hok take back false w
  have hf := hnp' hnp rfl
  subst hf
  obtain ⟨hkd, hr⟩ := hfin rfl
  refine ⟨v', w', by rw [hrun, hr], by simpa using hrep, ?_, hb⟩
  rw [hev, hkd, List.take_length]

/-- `into_iter()` used `take` times from the front and `back` times from the back, then
dropped: those items in that order, the others dropped in order -/
theorem C13_into_iter {c : Cfg} {v : VS} {xs : List Elem} (h : RepB c v xs) (take back : Nat) (w : W) (hnp : c.dropPanicAt = none) :
    ∃ w', intoIterOp c v take back false w =
        (w', some (xs.take (min take xs.length) ++ (xs.drop (xs.length - min back (xs.length - min take xs.length))).reverse)) ∧
      w'.evs = w.evs ++ movedEvs (xs.take (min take xs.length) ++ (xs.drop (xs.length - min back (xs.length - min take xs.length))).reverse) ++
        dropEvs c ((xs.drop (min take xs.length)).take (xs.length - min back (xs.length - min take xs.length) - min take xs.length)) ∧
      w'.bad = w.bad := by
  obtain ⟨w', r, kd, hrun, _, hev, hb, hr, _, hnp'⟩ := intoIterOp_spec h take back false w
  obtain ⟨hne, hkd⟩ := hnp' hnp rfl
  cases r with
  | none => exact absurd rfl hne
  | some m =>
    have := hr m rfl
    subst this
    exact ⟨w', hrun, by rw [hev, hkd, List.take_length], hb⟩

/-- `append(&mut other)`: `other`'s elements move to the end, `other` becomes empty; panics
(nothing changes) only when the growth is refused -/
theorem C13_append {c : Cfg} {a b : VS} {xs ys : List Elem} (hc : CfgOK c) (ha : RepB c a xs) (hb : RepB c b ys) (w : W) :
    (∃ a' b', append c a b w = (a', b', w, some ()) ∧ RepB c a' (xs ++ ys) ∧ RepB c b' []) ∨
    (append c a b w = (a, b, w, none) ∧ rawReserve c a a.len b.len = none) := append_spec hc ha hb w

/-- `split_off(at)`: panics iff `at > len` (or the new buffer is refused); else `xs.take at`
stays and the returned vector holds `xs.drop at` -/
theorem C13_split_off {c : Cfg} {v : VS} {xs : List Elem} (hc : CfgOK c) (h : RepB c v xs) (at_ : Nat) (w : W) :
    (at_ ≤ xs.length ∧ ∃ v' o, splitOff c v at_ w = (v', some o, w) ∧ RepB c v' (xs.take at_) ∧ RepB c o (xs.drop at_)) ∨
    (splitOff c v at_ w = (v, none, w) ∧ (xs.length < at_ ∨ withCapacity c (xs.length - at_) = none)) :=
  splitOff_spec hc h at_ w

/-- `splice(range, iter)` on a rejected range panics before anything is touched; the iterator
argument is dropped by the unwinding -/
theorem C13_splice_panics {c : Cfg} {v : VS} {xs : List Elem} (h : RepB c v xs) {s e : Bd}
    (hbad : ¬ ∃ st en, DrainOK c xs.length s e st en) (it : It) (take : Nat) (w : W) :
    spliceOp c v s e it take w = (v, it.dropRest c w, none) := by
  apply spliceOp_panics
  rw [h.len]; exact hbad

/-- `splice(st..en, iter)`, `take` × `next()`, `Splice` dropped — *every* path (iterator with any
`size_hint`, panicking at any `next` call or never; destructors panicking or not; growth refused or
not).  The first `min take (en - st)` elements of the range are handed to the caller, the rest of the
range is dropped; the vector ends as `xs.take st ++ items.take j ++ xs.drop en`: the tail is always
moved back behind what was inserted (no hole, no duplicate); the `items.drop j` not inserted are
dropped in order.  The call returns (`r = some _`) only with `j = |items|`, and it does return when
nothing panics and the arena serves the growth. -/
theorem C13_splice_any {c : Cfg} (hc : CfgOK c) (N : Nat) {v : VS} {xs : List Elem} (h : RepB c v xs) {s e : Bd} {st en : Nat}
    (hok : DrainOK c xs.length s e st en) (src : Src) (take : Nat) (w : W) :
    ∃ (j : Nat) (v' : VS) (w' : W) (r : Option (List Elem)), spliceOp c v s e (.src src) take w = (v', w', r) ∧
      j ≤ src.items.length ∧ RepB c v' (xs.take st ++ src.items.take j ++ xs.drop en) ∧
      w'.evs = w.evs ++ movedEvs ((xs.drop st).take (min take (en - st))) ++
        dropEvs c ((xs.drop (st + min take (en - st))).take (en - (st + min take (en - st)))) ++ dropEvs c (src.items.drop j) ∧
      w'.bad = w.bad ∧ w'.nextId = w.nextId ∧
      (∀ m, r = some m → m = (xs.drop st).take (min take (en - st)) ∧ j = src.items.length) ∧
      (src.panicAt = none → c.dropPanicAt = none → GrowOK c N → xs.length + src.items.length + src.hint ≤ N →
        r = some ((xs.drop st).take (min take (en - st)))) :=
  spliceOp_spec hc N h hok src take w

/-- `splice(st..en, iter)` when nothing panics and the arena serves the growth: the drained range is
replaced by the iterator's items — `xs.take st ++ items ++ xs.drop en` = `List` splice —, the first
`take` drained elements are returned in order, the others dropped; the iterator's `size_hint` may
claim anything -/
theorem C13_splice {c : Cfg} (hc : CfgOK c) (N : Nat) {v : VS} {xs : List Elem} (h : RepB c v xs) {s e : Bd} {st en : Nat}
    (hok : DrainOK c xs.length s e st en) (src : Src) (take : Nat) (w : W) (hip : src.panicAt = none)
    (hdp : c.dropPanicAt = none) (hg : GrowOK c N) (hN : xs.length + src.items.length + src.hint ≤ N) :
    ∃ v' w', spliceOp c v s e (.src src) take w = (v', w', some ((xs.drop st).take (min take (en - st)))) ∧
      RepB c v' (xs.take st ++ src.items ++ xs.drop en) ∧
      w'.evs = w.evs ++ movedEvs ((xs.drop st).take (min take (en - st))) ++
        dropEvs c ((xs.drop (st + min take (en - st))).take (en - (st + min take (en - st)))) ∧ w'.bad = w.bad := by
  obtain ⟨j, v', w', r, hrun, _, hrep, hev, hb, _, hres, hgood⟩ := spliceOp_spec hc N h hok src take w
  have hr := hgood hip hdp hg hN
  subst hr
  obtain ⟨_, hj⟩ := hres _ rfl
  subst hj
  refine ⟨v', w', hrun, by simpa using hrep, by simpa [dropEvs] using hev, hb⟩

/-- `extend(iter)` with the caller's iterator (any `size_hint`; may panic at any `next` call): a
prefix of the items is appended in order, the others are dropped by the unwinding; all of them are
appended, and nothing is dropped, unless the iterator panics or the growth is refused -/
theorem C13_extend {c : Cfg} (hc : CfgOK c) (N : Nat) {v : VS} {xs : List Elem} (h : RepB c v xs) (s : Src) (w : W) :
    ∃ (j : Nat) (v' : VS) (w' : W) (r : Option Unit), extend c v (.src s) w = (v', w', r) ∧ j ≤ s.items.length ∧
      RepB c v' (xs ++ s.items.take j) ∧ w'.evs = w.evs ++ dropEvs c (s.items.drop j) ∧ w'.bad = w.bad ∧ w'.nextId = w.nextId ∧
      (r = some () → j = s.items.length) ∧
      (s.panicAt = none → GrowOK c N → xs.length + s.items.length ≤ N → xs.length + (s.hint - s.consumed) ≤ N → r = some ()) :=
  extend_src_spec hc N h s w

/-- `from_iter_in(iter, bump)` / `collect_in`: the vector of the items, in order, no other effect; if
the iterator panics (or the growth is refused) every item is dropped exactly once -/
theorem C13_from_iter {c : Cfg} (hc : CfgOK c) (N : Nat) (s : Src) (w : W) :
    ∃ (j : Nat) (r : Option VS) (w' : W), fromIter c (.src s) w = (r, w') ∧ j ≤ s.items.length ∧ w'.bad = w.bad ∧
      (∀ v', r = some v' → RepB c v' s.items ∧ w'.evs = w.evs) ∧
      (r = none → w'.evs = w.evs ++ dropEvs c (s.items.drop j) ++ dropEvs c (s.items.take j)) ∧
      (s.panicAt = none → GrowOK c N → s.items.length ≤ N → s.hint - s.consumed ≤ N → r ≠ none) :=
  fromIter_spec hc N s w

/-- `extend_from_slice(other)`: the clones of `other`'s elements (`clonesFrom`: same values, fresh
identities for a type whose `Clone` makes new values) are appended in order — all of them unless
`Clone` panics or the growth is refused; a clone whose `push` is refused is dropped -/
theorem C13_extend_from_slice {c : Cfg} (hc : CfgOK c) (N : Nat) {v : VS} {xs : List Elem} (h : RepB c v xs) (src : List Elem) (w : W) :
    ∃ (j m : Nat) (v' : VS) (w' : W) (r : Option Unit), extend c v (.cloned src) w = (v', w', r) ∧ j + m ≤ src.length ∧
      RepB c v' (xs ++ (clonesFrom c w.nextId src).take j) ∧
      w'.evs = w.evs ++ dropEvs c (((clonesFrom c w.nextId src).drop j).take m) ∧ w'.bad = w.bad ∧ w.nextId ≤ w'.nextId ∧
      (r = some () → j = src.length ∧ m = 0) ∧ (CloneOK c → GrowOK c N → xs.length + src.length ≤ N → r = some ()) := by
  obtain ⟨j, m, v', w', r, hrun, hjm, hrep, hev, hb, hn, hrest⟩ := extend_cloned_spec hc N h src w
  exact ⟨j, m, v', w', r, hrun, hjm, hrep, hev, hb, Nat.le.intro hn.symm, hrest⟩

/-- clones carry the values of their originals, in order -/
theorem C13_clones_vals (c : Cfg) (n : Nat) (src : List Elem) :
    (clonesFrom c n src).map (·.val) = src.map (·.val) ∧ (clonesFrom c n src).length = src.length :=
  ⟨clonesFrom_vals c n src, clonesFrom_length c n src⟩

/-- `clone()`: a new vector with the clones of the elements, in order; the original is untouched;
if `Clone` panics the partly built vector is dropped -/
theorem C13_clone {c : Cfg} (hc : CfgOK c) (N : Nat) {v : VS} {xs : List Elem} (h : RepB c v xs) (w : W) :
    ∃ (r : Option VS) (w' : W), cloneVec c v w = (r, w') ∧ w'.bad = w.bad ∧
      (∀ nv, r = some nv → RepB c nv (clonesFrom c w.nextId xs) ∧ w'.evs = w.evs) ∧
      (r = none → ∃ j m, j + m ≤ xs.length ∧ w'.evs = w.evs ++ dropEvs c (((clonesFrom c w.nextId xs).drop j).take m) ++
        dropEvs c ((clonesFrom c w.nextId xs).take j)) ∧
      (CloneOK c → GrowOK c N → xs.length ≤ N → withCapacity c xs.length ≠ none → r ≠ none) :=
  cloneVec_spec hc N h w

/-- `resize(n, value)`, growing (`n > len`), `Clone` does not panic, growth served: `n - len - 1` clones
of `value` and then `value` itself are appended — `n - len` elements with `value`'s value -/
theorem C13_resize_grow {c : Cfg} (hc : CfgOK c) (N : Nat) {v : VS} {xs : List Elem} (h : RepB c v xs) (n : Nat) (x : Elem) (w : W)
    (hn : xs.length < n) (hco : CloneOK c) (hg : GrowOK c N) (hN : n ≤ N) :
    ∃ v' w' ys, resize c v n x w = (v', w', some ()) ∧ RepB c v' (xs ++ ys) ∧ ys.length = n - xs.length ∧
      ys = clonesFrom c w.nextId (List.replicate (n - xs.length - 1) x) ++ [x] ∧
      ys.map (·.val) = List.replicate (n - xs.length) x.val ∧ w'.evs = w.evs ∧ w'.bad = w.bad := by
  obtain ⟨v', w', hrun, hrep, hev, hb⟩ := resize_grow_spec hc h n x w hn hco (hg.mono hN)
  refine ⟨v', w', _, hrun, by rw [← List.append_assoc]; exact hrep, ?_, rfl, ?_, hev, hb⟩
  · rw [List.length_append, clonesFrom_length, List.length_replicate, List.length_singleton]; omega
  · rw [clonesFrom_replicate_vals, show n - xs.length - 1 + 1 = n - xs.length by omega]

/-- `resize(n, value)`, shrinking (`n ≤ len`), destructors do not panic: `truncate(n)` — the elements
from `n` on are dropped from the back — and then `value` is dropped -/
theorem C13_resize_shrink {c : Cfg} {v : VS} {xs : List Elem} (h : RepB c v xs) (n : Nat) (x : Elem) (w : W)
    (hn : n ≤ xs.length) (hnp : c.dropPanicAt = none) :
    ∃ v' w', resize c v n x w = (v', w', some ()) ∧ RepB c v' (xs.take n) ∧
      w'.evs = w.evs ++ dropEvs c (xs.drop n).reverse ++ dropEvs c [x] ∧ w'.bad = w.bad :=
  resize_shrink_spec h n x w hn hnp

/-- `extend_from_slice_copy(other)` (`T: Copy`): `other` is appended by one `copy_nonoverlapping`;
panics — nothing changes — only when the growth is refused -/
theorem C13_extend_from_slice_copy {c : Cfg} (hc : CfgOK c) {v : VS} {xs : List Elem} (h : RepB c v xs) (src : List Elem) (w : W) :
    (∃ v', extendFromSliceCopy c v src w = (v', w, some ()) ∧ RepB c v' (xs ++ src)) ∨
    (extendFromSliceCopy c v src w = (v, w, none) ∧ rawReserve c v v.len src.length = none) :=
  extendFromSliceCopy_spec hc h src w

/-- `extend_from_slices_copy(slices)`: one reservation of the total, then the slices are appended in
order (`xs ++ slices.flatten`); the unchecked copies stay inside the reserved capacity (no debug
assertion fires: `w` unchanged, in particular `w.bad`) -/
theorem C13_extend_from_slices_copy {c : Cfg} (hc : CfgOK c) {v : VS} {xs : List Elem} (h : RepB c v xs)
    (srcs : List (List Elem)) (w : W) :
    (∃ v', extendFromSlicesCopy c v srcs w = (v', w, some ()) ∧ RepB c v' (xs ++ srcs.flatten)) ∨
    (extendFromSlicesCopy c v srcs w = (v, w, none) ∧ rawReserve c v v.len (srcs.map List.length).sum = none) :=
  extendFromSlicesCopy_spec hc h srcs w

/-- the total the code computes: `slices.iter().try_fold(0, |t, s| t.checked_add(s.len()))` (F11: before the fix it summed
with a wrapping `usize` sum) -/
def checkedTotal : List (List Elem) → Option Nat
  | [] => some 0
  | s :: ss => (checkedTotal ss).bind fun t => checkedAdd s.length t

theorem checkedTotal_eq (srcs : List (List Elem)) :
    checkedTotal srcs = if (srcs.map List.length).sum < USIZE then some (srcs.map List.length).sum else none := by
  induction srcs with
  | nil => rfl
  | cons s ss ih =>
    simp only [checkedTotal, ih, List.map_cons, List.sum_cons]
    split
    · rfl
    · rw [Option.bind_none, if_neg (by omega)]

theorem checkedTotal_none {srcs : List (List Elem)} (h : checkedTotal srcs = none) : USIZE ≤ (srcs.map List.length).sum := by
  rw [checkedTotal_eq] at h
  split at h
  · cases h
  · omega

/-- C19 for `extend_from_slices_copy` (F11): a total element count that `usize` cannot represent is refused — the call
panics and neither the vector nor the world changes — whatever the element size (zero included) and whatever is already in
the vector.  With `checkedTotal_none` this covers exactly the inputs on which the code's checked sum gives up. -/
theorem C19_extend_from_slices_copy_total_overflow (c : Cfg) (v : VS) (srcs : List (List Elem)) (w : W)
    (h : USIZE ≤ (srcs.map List.length).sum) :
    extendFromSlicesCopy c v srcs w = (v, w, none) := by
  have hw : wsub (capOf c v) v.len < USIZE := by unfold wsub; exact Nat.mod_lt _ (by simp [USIZE])
  have h1 : ¬ (wsub (capOf c v) v.len ≥ (srcs.map List.length).sum) := by omega
  have h2 : checkedAdd v.len (srcs.map List.length).sum = none := by
    unfold checkedAdd; rw [if_neg]; omega
  unfold extendFromSlicesCopy rawReserve reserveGen
  rw [if_neg h1]
  unfold reserveInternal amortizedNewCap
  simp [h2]

/-- and the same total below `usize::MAX` is *not* refused by the sum: whether the call panics is then `reserve`'s decision
(`C13_extend_from_slices_copy`) -/
theorem checkedTotal_eq_some_of_lt {srcs : List (List Elem)} (h : (srcs.map List.length).sum < USIZE) :
    checkedTotal srcs = some (srcs.map List.length).sum := by
  rw [checkedTotal_eq, if_pos h]

example : checkedTotal [[⟨1, 1⟩, ⟨2, 2⟩], [⟨3, 3⟩]] = some 3 := by decide

/-- `io::Write::write` / `write_all` on a `Vec<u8>`: the bytes are appended, `write` reports
`buf.len()`; `flush` is a no-op -/
theorem C13_io_write {c : Cfg} (hc : CfgOK c) {v : VS} {xs : List Elem} (h : RepB c v xs) (buf : List Elem) (w : W) :
    (∃ v', ioWrite c v buf w = (v', w, some buf.length) ∧ RepB c v' (xs ++ buf)) ∨
    (ioWrite c v buf w = (v, w, none) ∧ rawReserve c v v.len buf.length = none) :=
  ioWrite_spec hc h buf w

/-- `dedup_by(same)` for a comparison that is a function of the two elements (destructors do not
panic): the vector keeps `dedupSpec same xs` — the first element of every run of consecutive "same"
elements, each later element compared with the last *kept* one —, the removed ones are dropped (the
swap-based partition permutes them, so only "some order"), the call returns -/
theorem C13_dedup_by {c : Cfg} {v : VS} {xs : List Elem} (h : RepB c v xs) (same : Elem → Elem → Bool) (w : W)
    (hnp : c.dropPanicAt = none) :
    ∃ (v' : VS) (w' : W) (zs : List Elem), dedupBy c v (fun _ a b => some (same a b)) w = (v', w', some ()) ∧
      RepB c v' (dedupSpec same xs) ∧ w'.evs = w.evs ++ dropEvs c zs ∧ zs.Perm (dedupRemoved same xs) ∧ w'.bad = w.bad :=
  dedupBy_pure_spec h same w hnp

/-- `dedup()` = `dedup_by(|a, b| a == b)` -/
theorem C13_dedup {c : Cfg} {v : VS} {xs : List Elem} (h : RepB c v xs) (w : W) (hnp : c.dropPanicAt = none) :
    ∃ (v' : VS) (w' : W), dedupBy c v (fun _ a b => some (a.val == b.val)) w = (v', w', some ()) ∧
      RepB c v' (dedupSpec (fun a b => a.val == b.val) xs) ∧ w'.bad = w.bad := by
  obtain ⟨v', w', _, hrun, hrep, _, _, hb⟩ := dedupBy_pure_spec h (fun a b => a.val == b.val) w hnp
  exact ⟨v', w', hrun, hrep, hb⟩

/-- `dedup_by_key(key)` = `dedup_by(|a, b| key(a) == key(b))` -/
theorem C13_dedup_by_key {c : Cfg} {v : VS} {xs : List Elem} (h : RepB c v xs) (key : Elem → Nat) (w : W) (hnp : c.dropPanicAt = none) :
    ∃ (v' : VS) (w' : W), dedupBy c v (fun _ a b => some (key a == key b)) w = (v', w', some ()) ∧
      RepB c v' (dedupSpec (fun a b => key a == key b) xs) ∧ w'.bad = w.bad := by
  obtain ⟨v', w', _, hrun, hrep, _, _, hb⟩ := dedupBy_pure_spec h (fun a b => key a == key b) w hnp
  exact ⟨v', w', hrun, hrep, hb⟩

/-- `shrink_to_fit()`: contents unchanged, `capacity() = len` afterwards (sized elements); panics only
when the arena refuses the reallocation -/
theorem C13_shrink_to_fit {c : Cfg} {v : VS} {xs : List Elem} (h : RepB c v xs) :
    (∃ v', shrinkToFit c v = some v' ∧ RepB c v' xs ∧ (c.esz ≠ 0 → capOf c v' = xs.length)) ∨
    (shrinkToFit c v = none ∧ c.allocOk = false ∧ c.esz ≠ 0 ∧ xs.length ≠ 0 ∧ xs.length < v.cap) :=
  shrinkToFit_spec h

/-- `into_boxed_slice()`: the box holds exactly the contents (no shrinking, no event); dropping the
box drops them in order -/
theorem C13_into_boxed_slice {c : Cfg} {v : VS} {xs : List Elem} (h : RepB c v xs) (w : W) :
    (intoBoxedThenDrop c v w).1 = xs ∧ (intoBoxedThenDrop c v w).2.1.evs = w.evs ++ dropEvs c xs ∧
      (intoBoxedThenDrop c v w).2.1.bad = w.bad ∧ (c.dropPanicAt = none → (intoBoxedThenDrop c v w).2.2 = false) :=
  intoBoxed_spec h w

/-- `vec![in b; elem; n]` (`Clone` does not panic, requests served): `n` elements with `elem`'s
value — `n - 1` clones, then `elem` itself; for `n = 0` an empty vector and `elem` is not evaluated -/
theorem C13_vec_macro_n {c : Cfg} (hc : CfgOK c) (N : Nat) (x : Elem) (n : Nat) (w : W) (hco : CloneOK c) (hg : GrowOK c N)
    (hN : n ≤ N) (hwc : withCapacity c n ≠ none) :
    ∃ v' w' ys, vmacroN c x n w = (some v', w', decide (n > 0)) ∧ RepB c v' ys ∧ ys.map (·.val) = List.replicate n x.val ∧
      w'.evs = w.evs ∧ w'.bad = w.bad := by
  obtain ⟨v', w', hrun, hev, hb, hrep⟩ := vmacroN_spec hc x n w hco (hg.mono hN) hwc
  refine ⟨v', w', _, hrun, hrep, ?_, hev, hb⟩
  by_cases hn0 : n = 0
  · simp [hn0]
  · rw [if_neg hn0, clonesFrom_replicate_vals, show n - 1 + 1 = n by omega]

/-- `vec![in b; a, b, c]` (requests served): the vector of the listed values, no other effect -/
theorem C13_vec_macro_list {c : Cfg} (hc : CfgOK c) (N : Nat) (es : List Elem) (w : W) (hg : GrowOK c N) (hN : es.length ≤ N) :
    ∃ v', vmacroListOp c es w = (some v', w, []) ∧ RepB c v' es :=
  vmacroListOp_spec hc es w (hg.mono hN)

/-- the hypotheses `GrowOK`, `CloneOK`, `DrainOK` can be met -/
example : GrowOK {} 1000 := by unfold GrowOK; decide
example : CloneOK {} := fun _ => rfl
example : DrainOK {} 3 (.inc 0) (.exc 1) 0 1 := by unfold DrainOK; decide
/-- a concrete run: `[1,2,3].splice(0..1, [7,8])` with a `size_hint` of 0 gives `[7,8,2,3]` and
returns the drained `1` -/
example :
    let xs : List Elem := [⟨1, 1⟩, ⟨2, 2⟩, ⟨3, 3⟩]
    let r := spliceOp {} ⟨xs.map some, 3, 3⟩ (.inc 0) (.exc 1) (.src ⟨[⟨7, 7⟩, ⟨8, 8⟩], 0, 0, 0, none⟩) 5 {}
    r.1.owned.map (·.id) = [7, 8, 2, 3] ∧ r.2.1.evs = [.moveOut 1] ∧ r.2.2.map (·.map (·.id)) = some [1] := by
  decide

/-- non-vacuity: a concrete vector with a stale slot after `len` satisfies the hypotheses -/
example : RepB {} ⟨[some ⟨1, 10⟩, some ⟨2, 20⟩, some ⟨2, 20⟩, none], 2, 4⟩ [⟨1, 10⟩, ⟨2, 20⟩] :=
  ⟨⟨⟨[some ⟨2, 20⟩, none], rfl⟩, rfl, fun _ => rfl, by decide⟩, by decide, fun _ => by decide⟩

example : CfgOK {} := by unfold CfgOK; decide

end Bump.V.C13

#print axioms Bump.V.C13.C13_rep_abs
#print axioms Bump.V.C13.C13_reserve
#print axioms Bump.V.C13.C13_push
#print axioms Bump.V.C13.C13_pop
#print axioms Bump.V.C13.C13_insert
#print axioms Bump.V.C13.C13_remove
#print axioms Bump.V.C13.C13_swap_remove
#print axioms Bump.V.C13.C13_truncate
#print axioms Bump.V.C13.C13_clear
#print axioms Bump.V.C13.C13_drain_filter
#print axioms Bump.V.C13.C13_retain
#print axioms Bump.V.C13.C13_drain_panics
#print axioms Bump.V.C13.C13_drain_range_all_profiles
#print axioms Bump.V.C13.C13_drain_max_rejected
#print axioms Bump.V.C13.C13_drain
#print axioms Bump.V.C13.C13_into_iter
#print axioms Bump.V.C13.C13_append
#print axioms Bump.V.C13.C13_split_off
#print axioms Bump.V.C13.C13_splice_panics
#print axioms Bump.V.C13.C13_splice_any
#print axioms Bump.V.C13.C13_splice
#print axioms Bump.V.C13.C13_extend
#print axioms Bump.V.C13.C13_from_iter
#print axioms Bump.V.C13.C13_extend_from_slice
#print axioms Bump.V.C13.C13_clones_vals
#print axioms Bump.V.C13.C13_clone
#print axioms Bump.V.C13.C13_resize_grow
#print axioms Bump.V.C13.C13_resize_shrink
#print axioms Bump.V.C13.C13_extend_from_slice_copy
#print axioms Bump.V.C13.C13_extend_from_slices_copy
#print axioms Bump.V.C13.C19_extend_from_slices_copy_total_overflow
#print axioms Bump.V.C13.checkedTotal_none
#print axioms Bump.V.C13.C13_io_write
#print axioms Bump.V.C13.C13_dedup_by
#print axioms Bump.V.C13.C13_dedup
#print axioms Bump.V.C13.C13_dedup_by_key
#print axioms Bump.V.C13.C13_shrink_to_fit
#print axioms Bump.V.C13.C13_into_boxed_slice
#print axioms Bump.V.C13.C13_vec_macro_n
#print axioms Bump.V.C13.C13_vec_macro_list
#print axioms Bump.V.intoIterNthOp_result
#print axioms Bump.V.intoIterNthOp_result_any
#print axioms Bump.V.intoIterNthOp_noUB
