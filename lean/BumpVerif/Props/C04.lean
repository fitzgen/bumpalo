import BumpVerif.Proofs.Step
import BumpVerif.Props.GenFacts
/-!
# C04 — returned pointers honour the requested and the minimum alignment
-/
namespace Bump.C04
open Bump Gen

/-- Fast path: every pointer it returns is aligned to the request and to `MIN_ALIGN`,
for every power-of-two `MIN_ALIGN` and alignment, zero sizes included. -/
theorem fast_aligned (M : Nat) (c : Chunk) (sz al p : Nat)
    (hM : IsPow2 M) (hA : IsPow2 al)
    (hdp : c.data ≤ c.ptr) (hptr : c.ptr < 2 ^ 63) (hMp : M ∣ c.ptr)
    (h : allocFast M c sz al = some p) : al ∣ p ∧ M ∣ p :=
  let ⟨_, _, h3, h4⟩ := allocFast_ok M c sz al p hM hA hdp hptr hMp h
  ⟨h3, h4⟩

/-- Every allocation flavour (fast path, slow path with a fresh chunk, fallible or not), at every
well-formed arena state — chunk-less included — returns a pointer aligned to the request and to
`MIN_ALIGN`, whatever chunk base the allocator returned. -/
theorem alloc_aligned {E sz al p} (f : Bool) (s : St) (hE : EnvOK E) (h : ArenaWF E s.a)
    (hA : IsPow2 al) (hlay : sz + al ≤ 2 ^ 63) (hok : (allocMaybe E f sz al s).2 = .ok p) :
    al ∣ p ∧ s.a.M ∣ p := by
  obtain ⟨_, ha, hm, _⟩ := (allocMaybe_spec f s hE h hA hlay).ok p hok
  exact ⟨ha, hm⟩

/-- `dealloc` keeps the finger aligned to `MIN_ALIGN` (part of `ArenaWF`) -/
theorem dealloc_keeps_finger_aligned {E p sz} (s : St) (hE : EnvOK E) (h : ArenaWF E s.a)
    (hblk : (s.a.cur E).ptr = p → p + sz ≤ (s.a.cur E).footer) :
    ∀ c ∈ (dealloc E p sz s).1.a.chunks, (dealloc E p sz s).1.a.M ∣ c.ptr :=
  fun c hc => ((dealloc_spec s hE h hblk).2.1.chunks c hc).ptr_al

/-- **All histories.** After any admissible history every live block's address is a multiple of
`MIN_ALIGN` (and non-null), and every chunk finger is `MIN_ALIGN`-aligned — including blocks that
came out of `grow`/`shrink` and fingers moved by `dealloc`, rewinds and `reset`. -/
theorem history_min_align {E} (hE : EnvOK E) (ops : List Op) (y : Sys) (inv : LiveInv E y) (hrun : RunOKFull E ops y) :
    (∀ b ∈ (sysRun E ops y).1.live, (sysRun E ops y).1.st.a.M ∣ b.ptr ∧ 0 < b.ptr) ∧
    (∀ c ∈ (sysRun E ops y).1.st.a.chunks, (sysRun E ops y).1.st.a.M ∣ c.ptr) := by
  have h := (sysRun_live_full hE ops y inv hrun).1
  exact ⟨fun b hb => ⟨(h.blocks b hb).1, (h.blocks b hb).2.1⟩, fun c hc => (h.wf.chunks c hc).ptr_al⟩

/-- `grow` and `shrink` results honour the new alignment and `MIN_ALIGN` -/
theorem realloc_aligned {E s s' p osz nsz nal q} (post : ReallocPost E s s' p osz nsz nal (.ok q)) :
    nal ∣ q ∧ s.a.M ∣ q :=
  ⟨(post.ok q rfl).2.1, (post.ok q rfl).2.2.1⟩

/-- Constructors refuse an unsupported minimum alignment with a panic. -/
theorem ctor_refuses (E M cap : Nat) (f : Bool) (s : St)
    (h : ¬ (IsPow2 M ∧ M ≤ CHUNK_ALIGN)) : (newArena E M cap f s).2 = .panic := by
  unfold newArena
  have : (!isPow2 M || decide (M > CHUNK_ALIGN)) = true := by
    by_cases hp : isPow2 M = true
    · have := isPow2_iff.mp hp
      have hgt : M > CHUNK_ALIGN := by
        apply Nat.lt_of_not_le; intro hle; exact h ⟨this, hle⟩
      simp [hgt]
    · simp [hp]
  rw [if_pos this]

/-- the static empty chunk is aligned to the largest supported `MIN_ALIGN`
(regenerated from the `repr` attribute of `EmptyChunkFooter`) -/
theorem static_aligned : CHUNK_ALIGN ∣ EMPTY_ALIGN := GenFacts.empty_align_ok

/-- non-vacuity: a concrete chunk and request meet the hypotheses -/
example : allocFast 8 ⟨4096, 560, 16, 4608, 512⟩ 13 4 = some 4592 := by decide

end Bump.C04

#print axioms Bump.C04.fast_aligned
#print axioms Bump.C04.alloc_aligned
#print axioms Bump.C04.dealloc_keeps_finger_aligned
#print axioms Bump.C04.history_min_align
#print axioms Bump.C04.realloc_aligned
#print axioms Bump.C04.ctor_refuses
#print axioms Bump.C04.static_aligned
