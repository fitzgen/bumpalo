import BumpVerif.Proofs.Tiling
/-! # C10 — chunk iteration yields exactly the allocated bytes, newest first

In the model `iter_allocated_chunks` and `iter_allocated_chunks_raw` are the same walk
(`iterChunks`); that the two Rust iterators agree is checked on the real crate by the
`iterators-differ` oracle of the correspondence run.
-/
namespace Bump.C10
open Bump Gen

/-- one slice per held chunk, newest first, each the used part `[ptr, footer)` of its chunk and
hence inside it -/
theorem iter_slices {E a} (h : ArenaWF E a) :
    iterChunks a = a.chunks.map (fun c => (c.ptr, c.footer - c.ptr)) ∧
    (iterChunks a).length = a.chunks.length ∧
    ∀ c ∈ a.chunks, c.data ≤ c.ptr ∧ c.ptr + (c.footer - c.ptr) = c.footer ∧ c.footer + FOOTER_SIZE = c.data + c.size := by
  refine ⟨rfl, by simp [iterChunks], ?_⟩
  intro c hc
  have hw := h.chunks c hc
  exact ⟨hw.ptr_ge, by have := hw.ptr_le; omega, footer_add hw⟩

/-- every region in a used part (every live block of non-zero size) is contained in exactly one
of the slices -/
theorem iter_covers_once {E a b bn} (h : ArenaWF E a) (hb : InChunk a b bn) (hpos : 0 < bn) :
    (∃ sl ∈ iterChunks a, sl.1 ≤ b ∧ b + bn ≤ sl.1 + sl.2) ∧
    (∀ c ∈ a.chunks, ∀ d ∈ a.chunks, (c.ptr ≤ b ∧ b + bn ≤ c.footer) → (d.ptr ≤ b ∧ b + bn ≤ d.footer) →
      c.data = d.data) := by
  obtain ⟨c, hc, h1, h2⟩ := hb
  have hw := h.chunks c hc
  refine ⟨⟨(c.ptr, c.footer - c.ptr), List.mem_map.mpr ⟨c, hc, rfl⟩, h1, by have := hw.ptr_le; simp only; omega⟩, ?_⟩
  intro x hx y hy hxb hyb
  -- two chunks both containing the non-empty region are the same chunk
  rw [chunk_of_point h hx hy (x := b)
    ⟨Nat.le_trans (h.chunks x hx).ptr_ge hxb.1, Nat.le_trans (Nat.le_add_right _ _) hxb.2⟩
    ⟨Nat.le_trans (h.chunks y hy).ptr_ge hyb.1, Nat.le_trans (Nat.le_add_right _ _) hyb.2⟩]

/-- Uniform allocations leave no padding: when the request's alignment `A` is at least
`MIN_ALIGN`, divides the finger and divides the size, the fast path hands out exactly the `sz`
bytes just below the finger, so consecutive objects are adjacent. -/
theorem uniform_no_padding (M : Nat) (c : Chunk) (sz A : Nat) (hA : IsPow2 A) (hMA : M ≤ A) (hA16 : A ≤ 16)
    (hdp : c.data ≤ c.ptr) (hptr : c.ptr < 2 ^ 63) (hAp : A ∣ c.ptr) (hAs : A ∣ sz) (hfit : sz ≤ c.ptr - c.data) :
    allocFast M c sz A = some (c.ptr - sz) := Bump.uniform_no_padding M c sz A hA hMA hA16 hdp hptr hAp hAs hfit

/-- …and a fresh chunk starts at its footer, which is 16-aligned, so the first object of a
chunk ends exactly at the footer: no bytes after the objects either. -/
theorem uniform_first_in_chunk {M : Nat} {c : Chunk} (sz A : Nat) (hw : ChunkWF M c) (hfresh : c.ptr = c.footer)
    (hA : IsPow2 A) (hMA : M ≤ A) (hA16 : A ≤ 16) (hAs : A ∣ sz) (hfit : sz ≤ c.footer - c.data) :
    allocFast M c sz A = some (c.footer - sz) := Bump.uniform_first_in_chunk sz A hw hfresh hA hMA hA16 hAs hfit

/-- **Uniform histories: the slices are exactly the objects.** Start from an arena a constructor
returned and run any history in which every allocation (any flavour, incl. fallible initialisers
and fallible slice fills that fail, across chunk boundaries, with `reset`s and limit changes in
between) has the same alignment `A` (`MIN_ALIGN ≤ A ≤ 16`) and a size that is a multiple of `A`.
Then in every chunk the sizes of the live objects lying in its used part add up to exactly the
length of the used part `[finger, footer)` — and by C01 those objects are inside it and pairwise
disjoint: the slice chunk iteration yields consists of the objects and nothing else (no byte
before, between or after), and (`iter_slices`) slices come newest chunk first. -/
theorem uniform_history_tiles {E M cap a A} (f : Bool) (s0 : St) (hE : EnvOK E) (hM : IsPow2 M) (hMle : M ≤ 16)
    (hA : IsPow2 A) (hA16 : A ≤ 16)
    (hctor : (newArena E M cap f s0).2 = .ok a) (ops : List Op)
    (hrun : UniformRun E A ops ⟨{ (newArena E M cap f s0).1 with a := a }, []⟩) :
    let y := (sysRun E ops ⟨{ (newArena E M cap f s0).1 with a := a }, []⟩).1
    LiveInv E y ∧ ∀ c ∈ y.st.a.chunks, liveBytesIn c y.live = c.footer - c.ptr := by
  intro y
  obtain ⟨hwf, _, _, hsh⟩ := (newArena_spec f s0 hM hMle).ok a hctor
  have hinit : Tiled A a.chunks [] := by
    rcases hsh with ⟨hn, _, _⟩ | ⟨c0, refs, hc0, _, _, hpf, _⟩
    · rw [hn]; exact .nil _ _
    · rw [hc0]
      exact .cons (hpf ▸ A_dvd_footer (hwf.chunks c0 (by rw [hc0]; exact List.mem_cons_self)) hA hA16)
        (hpf ▸ (Nat.sub_self _).symm) (.nil _ _)
  have := tiled_history hE hA hA16 ops ⟨{ (newArena E M cap f s0).1 with a := a }, []⟩
    (init_live _ hwf) hinit hrun
  exact ⟨this.1, this.2.exact⟩

example : allocFast 4 ⟨4096, 560, 16, 4608, 512⟩ 24 8 = some 4584 := by decide

end Bump.C10

#print axioms Bump.C10.iter_slices
#print axioms Bump.C10.iter_covers_once
#print axioms Bump.C10.uniform_no_padding
#print axioms Bump.C10.uniform_first_in_chunk
#print axioms Bump.C10.uniform_history_tiles
