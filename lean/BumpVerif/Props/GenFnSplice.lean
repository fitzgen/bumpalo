import BumpVerif.Gen.FnSplice
import BumpVerif.Props.GenFnVec
import BumpVerif.Proofs.VecReserve
/-!
# `Drain::fill` and `Drain::move_tail` as translated = the model's `Drain.fill`, `Drain.moveTail`

The two helpers `Splice::drop` is built from.  `fill` writes items of a caller-owned iterator into the gap `[vec.len, tail_start)`,
raising `vec.len` after *each* write (so that a panic of `next()` or an exhausted iterator leaves exactly the written items
inside the vector); `move_tail` reserves room behind the tail and moves the tail up.
-/
namespace Bump.V
open Bump Bump.RsM

def fillView (m : VS × It × W × Option Bool) : VW × It × Outcome Bool :=
  ((m.1, m.2.2.1), m.2.1, match m.2.2.2 with | none => .panic | some b => .ok b)

theorem fill_loop (c : Cfg) (d : Drain) (ts tl a b : Nat) :
    ∀ (n place : Nat) (it : It) (v : VS) (w : W), place = v.len → v.len + n < USIZE →
    Gen.Fn.drain_fill.loop c ts tl a b n place it (v, w) = fillView (Drain.fill c d n v it w) := by
  intro n
  induction n with
  | zero => intro place it v w _ _; rfl
  | succ n ih =>
    intro place it v w hp hlt
    unfold Gen.Fn.drain_fill.loop Drain.fill
    simp only [it_next]
    rcases It.next c w it with ⟨w1, it1, o⟩
    cases o with
    | none => rfl
    | some oo =>
      cases oo with
      | none => rfl
      | some e =>
        subst hp
        have h1 : v.len + 1 < USIZE := by omega
        simp only [RsM.write, write_len, h1, if_true, RsM.set_len]
        exact ih (v.len + 1) it1 _ _ rfl (by simp only [write_len]; omega)

theorem gen_drain_fill (c : Cfg) (d : Drain) (tl : Nat) (it : It) (v : VS) (w : W) (hgap : v.len ≤ d.tailStart)
    (hlt : d.tailStart < USIZE) :
    Gen.Fn.drain_fill c d.tailStart tl it (v, w) = fillView (Drain.fill c d (d.tailStart - v.len) v it w) := by
  unfold Gen.Fn.drain_fill
  simp only [hgap, if_true]
  exact fill_loop c d _ _ _ _ (d.tailStart - v.len) v.len it v w rfl (by omega)

/-- the unchecked additions of the source cannot wrap once the reservation succeeded -/
theorem gen_drain_move_tail (c : Cfg) (hc : CfgOK c) (d : Drain) (extra : Nat) (v : VS) (w : W) (hb : BufOK c v)
    (hu : d.tailStart + d.tailLen ≤ capOf c v) :
    Gen.Fn.drain_move_tail c d.tailStart d.tailLen extra (v, w) =
      match Drain.moveTail c v d extra w with
      | none => ((v, w), .panic)
      | some (v', d', w') => ((v', w'), .ok d'.tailStart) := by
  have hcl := capOf_lt c v hb.capLt
  have h1 : d.tailStart + d.tailLen < USIZE := by omega
  unfold Gen.Fn.drain_move_tail Drain.moveTail
  simp only [h1, if_true, liftV, gen_rv_reserve]
  cases hr : rawReserve c v (d.tailStart + d.tailLen) extra with
  | none => rfl
  | some v1 =>
    obtain ⟨hb1, _, hcap, _, _⟩ := rawReserve_buf hc hb hu hr
    have hcl1 := capOf_lt c v1 hb1.capLt
    have h2 : d.tailStart + extra < USIZE := by omega
    simp only [h2, if_true, RsM.copy]

#print axioms gen_drain_fill
#print axioms gen_drain_move_tail

end Bump.V
