import BumpVerif.Proofs.Step
/-! # C03 — chunks are returned to the global allocator exactly once and never early

The ledger is computed from the *event log alone* (what the global allocator saw): a successful
`malloc` adds its block, a `free` erases the block with exactly that address, size and
alignment.  The invariant says the ledger always equals the arena's chunk list (newest first).
-/
namespace Bump.C03
open Bump Gen

/-- Every allocation flavour keeps the ledger invariant; it never frees anything, and a failed
or refused request leaves the ledger unchanged. -/
theorem alloc_ledger {E sz al} (f : Bool) (s : St) (hE : EnvOK E) (h : ArenaWF E s.a) (hA : IsPow2 al)
    (hlay : sz + al ≤ 2 ^ 63) (hl : Ledger s) (hne : (allocMaybe E f sz al s).2 ≠ .envBad) :
    Ledger (allocMaybe E f sz al s).1 :=
  (allocPost_quiet (allocMaybe_spec f s hE h hA hlay) hne).ledger.preserves hl

/-- `reset` gives back exactly the chunks other than the newest one, each once, each with the
layout it was requested with; afterwards the allocator still holds exactly the kept chunk. -/
theorem reset_ledger {E} (s : St) (h : ArenaWF E s.a) (hl : Ledger s) : Ledger (reset s).1 := Bump.reset_ledger s h hl

/-- dropping the arena gives back every chunk exactly once; afterwards it holds no memory -/
theorem drop_ledger (s : St) (hl : Ledger s) : ledger [] (dropArena s).evs = [] ∧ (dropArena s).a.chunks = [] :=
  Bump.drop_ledger s hl

/-- **All histories.** After any admissible history — constructors with capacity, growth over many
chunks, `reset` at any point, failed allocations, allocator refusals at any point — the allocator
ledger (computed from the event log alone) equals the arena's chunk list; so every block obtained
was either still held or freed exactly once with its own layout, and only by `reset`. -/
theorem history_ledger {E} (hE : EnvOK E) : ∀ (ops : List Op) (y : Sys), LiveInv E y → Ledger y.st → RunOKFull E ops y →
    Ledger (sysRun E ops y).1.st := by
  intro ops
  induction ops with
  | nil => intro y _ hl _; exact hl
  | cons op ops ih =>
    intro y inv hl ⟨hv, hne, hrest⟩
    have post := (sysStep_post hE y op inv hv).2 hne
    exact ih _ post.live (post.ledger hl) hrest

/-- the static empty chunk is never given to the allocator: every `free` names a held chunk,
and held chunks are disjoint from the static -/
theorem never_frees_static {E} (s : St) (h : ArenaWF E s.a) :
    ∀ e ∈ (s.a.chunks.map freeEv), ∀ sz al, e ≠ .free E sz al := by
  intro e he sz al heq
  obtain ⟨c, hc, hce⟩ := List.mem_map.mp he
  subst hce
  simp only [freeEv, Ev.free.injEq] at heq
  have := h.sdisj c hc
  have hs := (h.chunks c hc).size_ge
  unfold Disj at this
  have := FS
  omega

/-- `dealloc` (and hence `shrink`'s in-place path and rewinds) never talks to the allocator -/
theorem dealloc_silent {E p sz} (s : St) (hE : EnvOK E) (h : ArenaWF E s.a)
    (hblk : (s.a.cur E).ptr = p → p + sz ≤ (s.a.cur E).footer) : (dealloc E p sz s).1.evs = s.evs :=
  (dealloc_spec s hE h hblk).2.2.2.1

example : ledger [] [.malloc 496 16 (some 4096), .malloc 1008 16 none, .malloc 1008 16 (some 8192), .free 4096 496 16]
    = [(8192, 1008, 16)] := by decide

end Bump.C03

#print axioms Bump.C03.alloc_ledger
#print axioms Bump.C03.reset_ledger
#print axioms Bump.C03.drop_ledger
#print axioms Bump.C03.history_ledger
#print axioms Bump.C03.never_frees_static
#print axioms Bump.C03.dealloc_silent
