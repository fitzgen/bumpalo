import BumpVerif.Gen.FnSpliceDrop
import BumpVerif.Props.GenFnSplice
import BumpVerif.Proofs.VecSplice
/-!
# `impl Drop for Splice` as translated = the model's `spliceBody`

`Gen.Fn.splice_drop_body` is the source's `Splice::drop` after its first statement (`self.drain.by_ref().for_each(drop)`, which
the model performs in `spliceOp`): the `tail_len == 0` shortcut through `Extend`, `fill`, the size-hint guess with `move_tail` and
a second `fill`, the collected remainder with its exact `move_tail` and last `fill`, the two debug assertions, and the drop of the
`collected` iterator on every path that leaves the function.  The theorems equate it with the model's `spliceBody` (through
`spliceBody_eq`, `spliceAfter`, `spliceTail`) on every state satisfying the invariant `Gap` the splice theorems of C13/C15/C16
are proved under, for every source iterator — including the ones that panic or report a wrong size hint.
-/
namespace Bump.V
open Bump Bump.RsM

/-- the translator's shape of the model's result `(vector, drain, iterator, effects, finished?)` -/
def bodyView (m : VS × Drain × It × W × Bool) : VW × Nat × It × Outcome Unit :=
  ((m.1, m.2.2.2.1), m.2.1.tailStart, m.2.2.1, if m.2.2.2.2 then .ok () else .panic)

theorem Gap.tailStart_lt {c v d P gap T R} (h : Gap c v d P gap T R) : d.tailStart < USIZE := by
  have h1 := h.used_le
  have h2 := capOf_lt c v h.bufOK.capLt
  have h3 := h.tailStart
  omega

theorem Gap.len_le {c v d P gap T R} (h : Gap c v d P gap T R) : v.len ≤ d.tailStart := by
  have h1 := h.len
  have h3 := h.tailStart
  omega

theorem Gap.used {c v d P gap T R} (h : Gap c v d P gap T R) : d.tailStart + d.tailLen ≤ capOf c v := by
  have h1 := h.used_le
  have h3 := h.tailStart
  have h4 := h.tailLen
  omega

/-- the collected remainder: `collect`, the exact `move_tail`, the last `fill`, the drop of `collected` -/
theorem gen_splice_tail (c : Cfg) (hc : CfgOK c) (lb : Nat) {v : VS} {d : Drain} {P T : List Elem} {R : List (Option Elem)}
    (h : Gap c v d P [] T R) (hT : T ≠ []) (s0 : Src) (w : W) :
    Gen.Fn.splice_drop_body.after_1 c d.tailLen lb d.tailStart (.src s0) (v, w) = bodyView (spliceTail c v d (.src s0) w) := by
  unfold Gen.Fn.splice_drop_body.after_1 spliceTail collect_by_ref
  obtain ⟨j, s', ok, hrun, _, _, _, _⟩ := collectRest_src c w ((It.src s0).remaining + 1) s0 [] (by simp [It.remaining])
  rw [hrun]
  dsimp only [List.nil_append]
  generalize s0.items.take j = acc
  cases ok with
  | false => rfl
  | true =>
    dsimp only
    rw [show (It.owned acc).remaining = acc.length from rfl]
    by_cases hpos : acc.length > 0
    · rw [if_pos (decide_eq_true hpos), if_pos hpos, gen_drain_move_tail c hc d _ v w h.bufOK h.used]
      rcases h.moveTail hc hT acc.length w with ⟨hnone, _⟩ | ⟨v', gap', R', hsome, hgap', hlen'⟩
      · rw [hnone]
        rfl
      · rw [hsome]
        dsimp only
        rw [gen_drain_fill c _ d.tailLen _ v' w hgap'.len_le hgap'.tailStart_lt, hgap'.fillCount, hlen']
        obtain ⟨v'', hfill, _⟩ := fill_owned (c := c) (d := { d with tailStart := d.tailStart + acc.length }) w
          acc v' P gap' hgap' hlen'
        rw [hfill]
        cases c.dbg <;> rfl
    · have hnil : acc = [] := List.eq_nil_of_length_eq_zero (Nat.eq_zero_of_not_pos hpos)
      subst hnil
      rfl

#print axioms gen_splice_tail

theorem src_hintLo (s : Src) : (It.src s).hintLo = s.hint - s.consumed := rfl

/-- `fill` from the source iterator over the whole gap; the flag `true` means the gap is closed -/
theorem gen_fill_gap (c : Cfg) {v : VS} {d : Drain} {P T : List Elem} {gap R : List (Option Elem)} (h : Gap c v d P gap T R)
    (s0 : Src) (w : W) :
    ∃ (v1 : VS) (s1 : Src) (flag : Option Bool) (P1 : List Elem),
      Drain.fill c d (d.tailStart - v.len) v (.src s0) w = (v1, .src s1, w, flag) ∧
      Gen.Fn.drain_fill c d.tailStart d.tailLen (.src s0) (v, w) = fillView (v1, .src s1, w, flag) ∧
      (flag = some true → Gap c v1 d P1 [] T R) := by
  obtain ⟨j, v1, s1, flag, hfill, _, _, hgap1, _, _, _, hfull, _, _⟩ := fill_src (c := c) (d := d) w gap.length v s0 P gap h (Nat.le_refl _)
  rw [← h.fillCount] at hfill
  refine ⟨v1, s1, flag, P ++ s0.items.take j, hfill, ?_, fun hf => ?_⟩
  · rw [gen_drain_fill c d d.tailLen _ v w h.len_le h.tailStart_lt, hfill]
  · have hd : gap.drop j = [] := by rw [hfull hf, List.drop_length]
    rw [hd] at hgap1
    exact hgap1

theorem gen_splice_drop_body (c : Cfg) (hc : CfgOK c) {v : VS} {d : Drain} {P T : List Elem} {gap R : List (Option Elem)}
    (h : Gap c v d P gap T R) (s0 : Src) (w : W) :
    Gen.Fn.splice_drop_body c d.tailStart d.tailLen (.src s0) (v, w) = bodyView (spliceBody c v d (.src s0) w) := by
  rw [spliceBody_eq]
  unfold Gen.Fn.splice_drop_body
  by_cases htl : d.tailLen = 0
  · rw [if_pos (beq_iff_eq.mpr htl), if_pos htl]
    unfold extend_by_ref
    rcases extendRef c v (It.src s0) w with ⟨v1, it1, w1, ok⟩
    cases ok <;> rfl
  · have hT : T ≠ [] := fun hnil => htl (by rw [h.tailLen, hnil]; rfl)
    rw [if_neg (mt beq_iff_eq.mp htl), if_neg htl]
    obtain ⟨v1, s1, flag, P1, hm, hg, hgap1⟩ := gen_fill_gap c h s0 w
    rw [hg, hm]
    obtain _ | _ | _ := flag
    · rfl
    · rfl
    · have hgap1 := hgap1 rfl
      dsimp only [fillView]
      rw [if_neg (show ¬ (!true) = true from Bool.false_ne_true)]
      by_cases hlb : (It.src s1).hintLo > 0
      · rw [if_pos (decide_eq_true hlb), if_pos hlb, gen_drain_move_tail c hc d _ v1 w hgap1.bufOK hgap1.used]
        rcases hgap1.moveTail hc hT (It.src s1).hintLo w with ⟨hnone, _⟩ | ⟨v2, gap2, R2, hsome, hgap2, hlen2⟩
        · rw [hnone]; rfl
        · rw [hsome]
          dsimp only
          obtain ⟨v3, s3, flag2, P3, hm2, hg2, hgap3⟩ := gen_fill_gap c hgap2 s1 w
          rw [hg2, hm2]
          obtain _ | _ | _ := flag2
          · rfl
          · rfl
          · dsimp only [fillView]
            rw [if_neg (show ¬ (!true) = true from Bool.false_ne_true)]
            exact gen_splice_tail c hc _ (hgap3 rfl) hT s3 w
      · rw [if_neg (mt of_decide_eq_true hlb), if_neg hlb]
        exact gen_splice_tail c hc _ hgap1 hT s1 w

#print axioms gen_splice_drop_body

end Bump.V
