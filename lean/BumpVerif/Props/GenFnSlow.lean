import BumpVerif.Props.GenFnNewChunk
import BumpVerif.Props.GenFnDetails
import BumpVerif.Props.GenFnLimit
import BumpVerif.Props.GenFnFast
import BumpVerif.Gen.FnSlow
import BumpVerif.Proofs.Alloc
/-! # The translated slow path (`alloc_layout_slow`, its candidate loop) equals the hand-written model -/
namespace Bump
open Rs Gen

theorem bypass_eq (limit : Option Nat) (ab sz base : Nat) :
    bypassMin limit ab sz base =
      match limit with
      | some l => (decide (sz < l) && decide (base ≥ max sz 1) && decide (l < DEFAULT_CHUNK_SIZE_WITHOUT_FOOTER)) && (ab == 0)
      | none => false := by
  unfold bypassMin
  have : decide (ab = 0) = (ab == 0) := by by_cases h : ab = 0 <;> simp [h]
  cases limit <;> simp [this]

def slowStep (E : Nat) (a : Arena) (sz al : Nat) (rem : Option Nat) (base : Nat) (s : St)
    (rest : St → St × Outcome (Option Chunk)) : St × Outcome (Option Chunk) :=
  pureO s (reify (newChunkMemoryDetails a.M (some base) sz al)) fun s od =>
    match od with
    | none => (s, .ok none)
    | some d =>
      if fitsUnderLimit rem d then
        bindO (newChunk E a.chunks a.M d sz (a.allocatedBytes E) s) fun s oc =>
          match oc with
          | some c => (s, .ok (some c))
          | none => rest s
      else rest s

theorem slowLoop_succ (E : Nat) (a : Arena) (sz al : Nat) (rem : Option Nat) (minNew n base : Nat) (s : St) :
    slowLoop E a.chunks a.M a.limit (a.allocatedBytes E) sz al rem minNew (n + 1) base s =
      if decide (base ≥ minNew) || bypassMin a.limit (a.allocatedBytes E) sz base then
        slowStep E a sz al rem base s
          (fun s => slowLoop E a.chunks a.M a.limit (a.allocatedBytes E) sz al rem minNew n (base / 2) s)
      else (s, .ok none) := by
  rw [slowLoop]
  unfold slowStep
  split
  · cases newChunkMemoryDetails a.M (some base) sz al <;> rfl
  · rfl

/-- the candidate step as translated (it is printed once per copy of the duplicated continuation), given that the rest of
the loop agrees on every state with the same arena -/
theorem gen_slow_step (E : Nat) (sz al : Nat) (rem : Option Nat) (base : Nat) (s : St)
    (hM : P2 s.a.M) (hal : P2 al) (hsz : sz < USIZE) (g m : St → St × Outcome (Option Chunk))
    (hrest : ∀ s', s'.a = s.a → simS (g s') (m s')) :
    simS
      (pureO s (Gen.Fn.new_chunk_memory_details s.a.M (some base) ⟨sz, al⟩) fun s1 r_11 =>
        match r_11 with
        | none => (s1, Outcome.ok none)
        | some d =>
          pureO s1 (Gen.Fn.chunk_fits_under_limit s.a.M rem d) fun s2 r_12 =>
            if r_12 then
              bindO (Gen.Fn.new_chunk E s.a.M d ⟨sz, al⟩ (s.a.cur E) s2) fun s3 r_14 =>
                match r_14 with
                | some y => (s3, Outcome.ok (some y))
                | none => g s3
            else g s2)
      (slowStep E s.a sz al rem base s m) := by
  refine simS_pureO (gen_new_chunk_memory_details s.a.M (some base) sz al hM hal hsz) fun od hod => ?_
  cases od with
  | none => exact simS_refl _
  | some d =>
    dsimp only
    rw [gen_chunk_fits_under_limit, pureO_ok]
    refine simS_ite (fun _ => ?_) fun _ => hrest s rfl
    refine simS_bind_of (gen_new_chunk E s.a.M d sz al (s.a.cur E) s hM (details_size (reify_eq_ok_some hod))) fun s' oc h => ?_
    cases oc with
    | some c => exact simS_refl _
    | none =>
      refine hrest s' ?_
      have := newChunk_arena E s.a.chunks s.a.M d sz (s.a.allocatedBytes E) s
      rwa [h] at this

theorem gen_slow_loop (E : Nat) (a : Arena) (sz al : Nat) (rem r : Option Nat) (cl : Layout) (minNew x : Nat)
    (hM : P2 a.M) (hal : P2 al) (hsz : sz < USIZE) :
    ∀ (fuel base : Nat) (s : St), s.a = a →
      simS (Gen.Fn.alloc_layout_slow.loop_1 E a.M ⟨sz, al⟩ r rem (a.cur E) cl minNew x fuel base s)
        (slowLoop E a.chunks a.M a.limit (a.allocatedBytes E) sz al rem minNew fuel base s) := by
  intro fuel
  induction fuel with
  | zero => intro base s _; rw [Gen.Fn.alloc_layout_slow.loop_1, slowLoop]; exact simS_bad _ _ _
  | succ n ih =>
    intro base s hsa
    subst hsa
    have hstep := gen_slow_step E sz al rem base s hM hal hsz _ _ (ih (base / 2))
    rw [slowLoop_succ, bypass_eq]
    simp only [Gen.Fn.alloc_layout_slow.loop_1, gen_allocation_limit, gen_allocated_bytes, pureO_ok]
    cases hl : s.a.limit with
    | none =>
      rw [hl] at hstep
      simp only [Bool.or_false]
      exact simS_ite (fun _ => hstep) fun _ => simS_refl _
    | some l =>
      rw [hl] at hstep
      dsimp only
      by_cases hb : (decide (sz < l) && decide (base ≥ max sz 1) && decide (l < DEFAULT_CHUNK_SIZE_WITHOUT_FOOTER)) = true
      · simp only [hb, if_true, Bool.true_and]
        exact simS_ite (fun _ => hstep) fun _ => simS_refl _
      · simp only [Bool.eq_false_iff.2 hb, Bool.false_eq_true, if_false, Bool.false_and, Bool.or_false]
        exact simS_ite (fun _ => hstep) fun _ => simS_refl _

theorem tryFast_ok_or_bad (E : Nat) (a : Arena) (sz al : Nat) :
    (∃ r, tryFast E a sz al = .ok r) ∨ (∃ w, tryFast E a sz al = .bad w) := by
  unfold tryFast
  dsimp only
  by_cases h1 : (!fastPre a.M (a.cur E)) = true
  · rw [if_pos h1]; exact .inr ⟨_, rfl⟩
  rw [if_neg h1]
  by_cases h2 : (decide (al ≥ a.M) && (roundUpTo sz al).isNone) = true
  · rw [if_pos h2]; exact .inr ⟨_, rfl⟩
  rw [if_neg h2]
  rcases allocFast a.M (a.cur E) sz al with _ | p
  · exact .inl ⟨_, rfl⟩
  dsimp only
  by_cases h3 : (!fastPost a.M (a.cur E) al p) = true
  · rw [if_pos h3]; exact .inr ⟨_, rfl⟩
  rw [if_neg h3]
  rcases setCurPtr E a p with _ | a'
  · exact .inr ⟨_, rfl⟩
  · exact .inl ⟨_, rfl⟩

theorem fresh_head {E : Nat} {held : List Chunk} {M : Nat} {d : Details} {ab : Nat} {c : Chunk}
    (hfc : FreshChunk E held M d ab c) : c.footer ≠ E ∧ c.ptr < USIZE := by
  have h1 := hfc.wf.size_ge
  have h2 := hfc.wf.hi
  have h3 := hfc.sdisj
  have h4 := hfc.ptr_eq
  have hF := FS
  unfold Disj at h3
  unfold Chunk.footer at *
  unfold USIZE
  constructor <;> omega

/-- stated against `Rs.alloc_layout_slow` (the hand model `allocSlow`), which is what the translated callers reach -/
theorem gen_alloc_layout_slow (E sz al : Nat) (s : St) (hE : EnvOK E) (h : ArenaWF E s.a) (hA : IsPow2 al)
    (hlay : sz + al ≤ 2 ^ 63) :
    simS (Gen.Fn.alloc_layout_slow E s.a.M ⟨sz, al⟩ s) (Rs.alloc_layout_slow E s.a.M ⟨sz, al⟩ s) := by
  have hU : USIZE = 2 ^ 64 := rfl
  have hM : P2 s.a.M := .of_wf_M h
  have hal : P2 al := .of_isPow2 hA (by omega)
  have hsz : sz < USIZE := by omega
  obtain ⟨c1, c2, c3, c4, c5, c6, c7⟩ := cur_ok hE h
  have := FS; have := DF
  -- the translator prints `allocSlow`'s fuel, 70; `slowLoop_spec` is stated at `fuel + 1`, and the first candidate is below
  -- `2 ^ 69` because sizes are at most `2 ^ 63`
  have hsp := slowLoop_spec (E := E) (held := s.a.chunks) (M := s.a.M) (limit := s.a.limit)
    (ab := s.a.allocatedBytes E) (sz := sz) (al := al) (rem := limitRemaining s.a E)
    (minNew := max sz DEFAULT_CHUNK_SIZE_WITHOUT_FOOTER) h.mpow h.mle hA hlay (by omega) (ab_le_sumSize h)
    69 (max (((s.a.cur E).size - FOOTER_SIZE) * 2) (max sz DEFAULT_CHUNK_SIZE_WITHOUT_FOOTER)) s (by omega) (by have := OV; omega)
  have hloop := gen_slow_loop E s.a sz al (limitRemaining s.a E) (limitRemaining s.a E)
    ⟨(s.a.cur E).size, (s.a.cur E).align⟩ (max sz DEFAULT_CHUNK_SIZE_WITHOUT_FOOTER) (((s.a.cur E).size - FOOTER_SIZE) * 2)
    hM hal hsz 70
    (max (((s.a.cur E).size - FOOTER_SIZE) * 2) (max sz DEFAULT_CHUNK_SIZE_WITHOUT_FOOTER)) s rfl
  simp only [Gen.Fn.alloc_layout_slow, Rs.alloc_layout_slow, reifyS, allocSlow, gen_allocation_limit_remaining, pureO_ok,
    if_pos c5, if_neg (Nat.not_lt_of_le c5), checkedMul_two (n := (s.a.cur E).size - FOOTER_SIZE) (by omega)]
  refine simS_bind_reify hloop ?_ fun s1 oc hoc => ?_
  · rcases hsp.cases with ⟨ho, _⟩ | ho | ⟨_, _, _, _, ho, _⟩ <;> rw [ho] <;> nofun
  rw [hoc] at hsp
  obtain ⟨ha, _, hc⟩ := hsp
  clear hloop hoc
  rcases oc with _ | c
  · exact simS_refl _
  obtain ⟨d, n0, hd, hfc⟩ : ∃ d n0, DetailsOK s.a.M sz al n0 d ∧ FreshChunk E s.a.chunks s.a.M d (s.a.allocatedBytes E) c := by
    rcases hc with ⟨ho, _⟩ | ho | ⟨c', d, n0, refs, ho, hd, hfc, _⟩ <;> cases ho
    exact ⟨d, n0, hd, hfc⟩
  -- a chunk `c`: the translated assertion on its alignment holds, and the fast path runs on the arena with `c` in front
  have hdvd : c.data % al = 0 := Nat.mod_eq_zero_of_dvd (Nat.dvd_trans hd.align_al hfc.al_dvd)
  have hfh := fresh_head hfc
  dsimp only
  rw [if_pos (show al ≠ 0 by have := hA.pos; omega), if_pos (by rw [hdvd]; rfl), set_current_footer, bindO_ok]
  generalize hs2 : ({ s1 with a := { s1.a with chunks := c :: s1.a.chunks } } : St) = s2
  have hs2a : s2.a = { s1.a with chunks := c :: s1.a.chunks } := by rw [← hs2]
  have hcur2 : s2.a.cur E = c := by rw [hs2a]; rfl
  have hMeq : s2.a.M = s.a.M := by rw [hs2a, ← ha]
  have hf := gen_try_alloc_layout_fast E sz al s2 (hMeq ▸ hM) hal hsz (by rw [hcur2]; exact hfh.2)
    (fun hh hmem => by rw [hs2a] at hmem; cases hmem; exact hfh.1)
  rw [hMeq] at hf
  refine simS_trans (simS_bindO _ hf) ?_
  unfold fastResult
  rw [← hs2a]
  rcases tryFast_ok_or_bad E s2.a sz al with ⟨r, hr⟩ | ⟨w, hr⟩ <;> rw [hr]
  · rcases r with _ | ⟨a'', p⟩
    · exact simS_bad _ _ _
    · exact simS_refl _
  · exact simS_refl _

#print axioms gen_slow_loop
#print axioms gen_alloc_layout_slow
end Bump
