import BumpVerif.Proofs.Step
/-!
# C16 / C15 — arena part

The arena never looks at the values stored in it: none of its operations has a memory effect on
a live block (C02) and none runs a destructor (the model has no such step; the harness checks
on the real crate that no destructor of an arena-resident value runs during fills, `reset` and
`drop`). What a panic in user code can do to the arena: initialiser closures (`alloc_with`,
`alloc_try_with`, `alloc_slice_fill_with/clone/iter/default`) run *after* the space has been
reserved; if they unwind, the arena is simply in the state right after the reservation.
-/
namespace Bump.C16A
open Bump Gen

/-- A panic in the initialiser of any `alloc*_with` / slice fill leaves the arena in the state
right after the reservation: well-formed, all live blocks intact, the reserved block leaked (it
stays counted as live, so nothing can ever be placed over the partially initialised elements),
and the arena fully usable (the invariant of C01 holds, so every later operation behaves). -/
theorem panic_after_reservation_keeps_invariant {E sz al p} (f : Bool) (s : St) (live : List Block)
    (hE : EnvOK E) (inv : LiveInv E ⟨s, live⟩) (hA : IsPow2 al) (hlay : sz + al ≤ 2 ^ 63)
    (hok : (allocMaybe E f sz al s).2 = .ok p) :
    LiveInv E ⟨(allocMaybe E f sz al s).1, live ++ [⟨p, sz⟩]⟩ ∧ (allocMaybe E f sz al s).1.mem = s.mem :=
  ⟨allocPost_live hE inv (allocMaybe_spec f s hE inv.wf hA hlay) hok, (allocMaybe_spec f s hE inv.wf hA hlay).mem_eq⟩

/-- `reset` and dropping the arena only talk to the allocator (free events); they write no memory
and — there being no such step in the arena — run no destructor of any value stored in it. -/
theorem reset_and_drop_touch_no_value {E} (s : St) (h : ArenaWF E s.a) :
    (reset s).1.mem = s.mem ∧ (dropArena s).mem = s.mem ∧
    (∀ e ∈ (dropArena s).evs, e ∈ s.evs ∨ ∃ c ∈ s.a.chunks, e = freeEv c) := by
  refine ⟨(reset_spec s h).2.2.1, rfl, ?_⟩
  intro e he
  simp only [dropArena, List.mem_append, List.mem_map] at he
  rcases he with h1 | ⟨c, hc, rfl⟩
  · exact Or.inl h1
  · exact Or.inr ⟨c, hc, rfl⟩

/-- after such a panic the arena keeps working for every later admissible history -/
theorem usable_after_panic {E sz al p} (f : Bool) (s : St) (live : List Block) (hE : EnvOK E)
    (inv : LiveInv E ⟨s, live⟩) (hA : IsPow2 al) (hlay : sz + al ≤ 2 ^ 63)
    (hok : (allocMaybe E f sz al s).2 = .ok p) (ops : List Op)
    (hrun : RunOKFull E ops ⟨(allocMaybe E f sz al s).1, live ++ [⟨p, sz⟩]⟩) :
    LiveInv E (sysRun E ops ⟨(allocMaybe E f sz al s).1, live ++ [⟨p, sz⟩]⟩).1 :=
  (sysRun_live_full hE ops _ (panic_after_reservation_keeps_invariant f s live hE inv hA hlay hok).1 hrun).1

end Bump.C16A

#print axioms Bump.C16A.panic_after_reservation_keeps_invariant
#print axioms Bump.C16A.reset_and_drop_touch_no_value
#print axioms Bump.C16A.usable_after_panic
