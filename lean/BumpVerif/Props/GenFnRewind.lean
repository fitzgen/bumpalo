import BumpVerif.Props.GenFnRealloc
import BumpVerif.Gen.FnRewind
/-! # The rewind of a failed initializer (`alloc_try_with` / `try_alloc_try_with`, the `Err(e)` arm) equals the model

Only the statements of the `Err(e) => { … }` arm are translated (a *region*: the enclosing generic function with its
closure and `Result<T, E>` slot is the hand model `allocTryWith`).  Its free variables are the locals
`rewind_footer`, `rewind_ptr` (the current chunk and its finger on entry) and `inner_result_ptr` (the slot). -/
namespace Bump
open Rs Gen

/-- the footer recorded on entry, as the translated code has it (a chunk) and as the model has it (its identity) -/
def SameFooter (E : Nat) (rf : Chunk) (rid : Option Nat) : Prop :=
  match rid with
  | none => rf.footer = E
  | some a => rf.footer = a ∧ a ≠ E

theorem sameFooter_iff {E : Nat} {rf : Chunk} {rid : Option Nat} {a : Arena}
    (hne : HeadNotStatic E a) (hrf : SameFooter E rf rid) : (a.cur E).footer = rf.footer ↔ footerId a = rid := by
  unfold footerId Arena.cur
  cases hc : a.chunks with
  | nil =>
    rw [List.headD_nil, emptyChunk_footer, List.head?_nil, Option.map_none]
    cases rid with
    | none => exact iff_of_true hrf.symm rfl
    | some x => exact iff_of_false (fun h => hrf.2 (h.trans hrf.1).symm) nofun
  | cons h rest =>
    have hh : h.footer ≠ E := hne h (by rw [hc]; rfl)
    rw [List.headD_cons, List.head?_cons, Option.map_some]
    cases rid with
    | none => exact iff_of_false (fun e => hh (e.trans hrf)) nofun
    | some x => rw [hrf.1, Option.some.injEq]

theorem gen_alloc_try_with_rewind (E : Nat) (rf : Chunk) (rid : Option Nat) (rp slot : Nat) (s : St)
    (hne : HeadNotStatic E s.a) (hrf : SameFooter E rf rid) :
    simS (Gen.Fn.alloc_try_with_rewind E s.a.M rf rp slot s) (rewind E rid rp slot s) := by
  unfold Gen.Fn.alloc_try_with_rewind Gen.Fn.alloc_try_with_rewind.k_1
  simp only [gen_is_last_allocation, pureO, bindO_ok, rewind, bindO_unit, beq_iff_eq, sameFooter_iff hne hrf]
  by_cases hl : isLast E s.a slot = true
  case neg => rw [if_neg hl, if_neg hl]; exact simS_refl _
  rw [if_pos hl, if_pos hl]
  by_cases hcf : footerId s.a = rid
  · rw [if_pos hcf, if_pos hcf]; exact gen_set_ptr E s.a.M rp s _ hne
  · rw [if_neg hcf, if_neg hcf]; exact gen_set_ptr E s.a.M _ s _ hne

/-- the arm is printed a second time, word for word, for the fallible twin -/
theorem try_alloc_try_with_rewind_eq : @Gen.Fn.try_alloc_try_with_rewind = @Gen.Fn.alloc_try_with_rewind := rfl

theorem gen_try_alloc_try_with_rewind (E : Nat) (rf : Chunk) (rid : Option Nat) (rp slot : Nat) (s : St)
    (hne : HeadNotStatic E s.a) (hrf : SameFooter E rf rid) :
    simS (Gen.Fn.try_alloc_try_with_rewind E s.a.M rf rp slot s) (rewind E rid rp slot s) :=
  try_alloc_try_with_rewind_eq ▸ gen_alloc_try_with_rewind E rf rid rp slot s hne hrf

#print axioms gen_alloc_try_with_rewind
#print axioms gen_try_alloc_try_with_rewind
end Bump
