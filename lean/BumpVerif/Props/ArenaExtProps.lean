import BumpVerif.Proofs.ArenaExt
/-!
# `alloc_slice_try_fill_with` whose closure allocates in the arena (`sliceTryFillIn`, Model/ArenaExt.lean)

The composite is not a constructor of the operation alphabet `Op`; the property theorems about it are stated and
proved in Proofs/ArenaExt.lean (by composition of the lemmas about `allocLayout`, `runInner`, `dealloc`) and audited here:
C01 — well-formedness and the live-block invariant are preserved, nothing `bad` happens; C03 — it only ever appends
`malloc` events (no chunk is returned); C11 — on the error path the blocks the closure kept are still live, in bounds,
inside the allocated part of a chunk, and the arena's own writes touch no memory.
-/
#print axioms Bump.sliceTryFillIn_main
#print axioms Bump.sliceTryFillIn_wf
#print axioms Bump.sliceTryFillIn_nobad
#print axioms Bump.sliceTryFillIn_ledger
#print axioms Bump.sliceTryFillIn_only_mallocs
#print axioms Bump.sliceTryFillIn_blocks_kept
#print axioms Bump.sliceTryFillIn_kept_inChunk
#print axioms Bump.sliceTryFillIn_err_result
#print axioms Bump.sliceTryFillIn_ok_live
#print axioms Bump.sliceTryFillIn_mem
#print axioms Bump.sliceTryFillIn_nil
