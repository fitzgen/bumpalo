import BumpVerif.Gen.FnVecFilter
import BumpVerif.Props.GenFnVecDrain
import BumpVerif.Proofs.VecFilter
/-!
# `Vec::drain_filter`, `DrainFilter::{next, drop}` and its `BackshiftOnDrop` guard as translated = the model's `dfNext`, `dfBackshift`, `dfDrop`

`DrainFilter`'s fields must survive a panic of the predicate (`panic_flag` is set *for* the unwinding destructor to see):
these methods are translated to return `Except Unit value × fields`, `.error ()` = the method unwound with these field
values.  The predicate is data (`pred k e` = the answer of its `k`-th call, `none` = that call panics; the call is counted
before its answer is known); that it may write through the `&mut T` it is handed is not modelled.
-/
namespace Bump.V
open Bump Rs RsV RsM

/-- `drain_filter(f)`: remember the length, set it to 0 (leak amplification guard), start at 0 -/
theorem gen_vec_drain_filter (c : Cfg) (cb : Nat → Elem → Option Bool) (v : VS) (w : W) :
    Gen.Fn.vec_drain_filter c cb (v, w) = ((({ v with len := 0 } : VS), w), .ok ⟨0, 0, v.len, 0, false⟩) := rfl

theorem gen_df_backshift_drop_k (c : Cfg) (cb : Nat → Elem → Option Bool) (j1 j2 j3 j4 : Nat) (j5 : Bool) (i d o k : Nat) (p : Bool)
    (s : VW) (h : d ≤ o) :
    Gen.Fn.df_backshift_drop.k_1 c cb j1 j2 j3 j4 j5 i d o k p s = (({ s.1 with len := o - d }, s.2), .ok (.ok (), i, d, o, k, p)) := by
  unfold Gen.Fn.df_backshift_drop.k_1
  exact if_pos h

theorem gen_df_backshift_drop (c : Cfg) (cb : Nat → Elem → Option Bool) (v : VS) (s : DF) (w : W)
    (h1 : s.del ≤ s.idx) (h2 : s.idx ≤ s.oldLen) :
    Gen.Fn.df_backshift_drop c cb s.idx s.del s.oldLen s.calls s.panicFlag (v, w) =
      (dfBackshift c v s w, .ok (.ok (), s.idx, s.del, s.oldLen, s.calls, s.panicFlag)) := by
  have h3 : s.del ≤ s.oldLen := Nat.le_trans h1 h2
  unfold Gen.Fn.df_backshift_drop
  rw [dfBackshift_eq, ← Bool.decide_and]
  by_cases h : s.idx < s.oldLen ∧ s.del > 0
  · rw [if_pos (decide_eq_true h), if_pos h]
    dsimp only
    rw [Nat.zero_add, if_pos h1, if_pos h2]
    unfold RsM.copy
    rw [bindW_ok, gen_df_backshift_drop_k _ _ _ _ _ _ _ _ _ _ _ _ _ h3]
  · rw [if_neg (mt of_decide_eq_true h), if_neg h, gen_df_backshift_drop_k _ _ _ _ _ _ _ _ _ _ _ _ _ h3]

/-- the model's result of `next` in the translation's shape: `none` (the predicate panicked) is the unwinding `.error ()`, and the
fields travel with the result -/
def dfOf {α : Type} (m : VS × DF × W × Option α) : VW × Outcome (Except Unit α × Nat × Nat × Nat × Nat × Bool) :=
  ((m.1, m.2.2.1), .ok (match m.2.2.2 with | some x => .ok x | none => .error (),
    m.2.1.idx, m.2.1.del, m.2.1.oldLen, m.2.1.calls, m.2.1.panicFlag))

/-- `DrainFilter::next` as translated is the model's `dfNext`, or stops at a read that the model flags -/
theorem gen_df_next_loop (c : Cfg) (cb : Nat → Elem → Option Bool) (i0 d0 k0 : Nat) (p0 : Bool) :
    ∀ (f F : Nat) (v : VS) (s : DF) (w : W), s.oldLen - s.idx < f → s.oldLen - s.idx < F → s.idx ≤ s.oldLen → s.del ≤ s.idx →
      s.oldLen < USIZE → s.panicFlag = false →
      Gen.Fn.df_next.loop_1 c cb i0 d0 s.oldLen k0 p0 F s.del s.idx s.panicFlag s.calls (v, w) = dfOf (dfNext c cb f v s w) ∨
        w.bad.length < (dfNext c cb f v s w).2.2.1.bad.length := by
  intro f
  induction f with
  | zero => intro F v s w h; exact absurd h (Nat.not_lt_zero _)
  | succ f ih =>
    intro F v s w hf hF hio hdi hU hpf
    obtain ⟨idx, del, old, calls, pf⟩ := s
    dsimp only at hf hF hio hdi hU hpf ⊢
    subst hpf
    cases F with
    | zero => exact absurd hF (Nat.not_lt_zero _)
    | succ F =>
      unfold Gen.Fn.df_next.loop_1
      by_cases hdone : idx = old
      · rw [dfNext_done c cb f v _ w hdone, if_neg (mt bne_iff_ne.mp (not_not_intro hdone))]
        exact Or.inl rfl
      · have hlt : idx < old := Nat.lt_of_le_of_ne hio hdone
        have a1 : old - (idx + 1) < f := by omega
        have a2 : old - (idx + 1) < F := by omega
        have h1 : idx + 1 < USIZE := Nat.lt_of_le_of_lt hlt hU
        have h2 : del + 1 < USIZE := Nat.lt_of_le_of_lt (Nat.succ_le_succ hdi) h1
        rw [if_pos (bne_iff_ne.mpr hdone)]
        dsimp only [RsM.read]
        rw [if_pos (decide_eq_true hlt), Nat.zero_add]
        cases hr : v.read idx with
        | none =>
          rw [dfNext_ub c cb f v _ w hdone hr]
          exact Or.inr (w.lt_flag _)
        | some e =>
          rw [dfNext_step c cb f v _ w e hdone hr]
          dsimp only
          cases cb calls e with
          | none => exact Or.inl rfl
          | some ans =>
            dsimp only
            rw [if_pos h1]
            cases ans with
            | true =>
              rw [if_pos rfl, if_pos h2, if_pos (decide_eq_true hlt)]
              exact Or.inl rfl
            | false =>
              rw [if_neg Bool.false_ne_true]
              dsimp only
              by_cases hd : del > 0
              · rw [if_pos hd, if_pos (decide_eq_true hd), if_pos (decide_eq_true hlt), if_pos hdi,
                  if_pos (decide_eq_true (Nat.lt_of_le_of_lt (Nat.sub_le idx del) hlt))]
                unfold RsM.copy_nonoverlapping
                rw [Nat.zero_add, if_pos (Or.inr (by omega : idx - del + 1 ≤ idx))]
                dsimp only
                rw [copy_one_eq_write c v idx (idx - del) e w hr (Nat.sub_lt_self hd hdi), bindW_ok]
                exact (ih F _ ⟨idx + 1, del, old, calls + 1, false⟩ _ a1 a2 hlt (Nat.le_succ_of_le hdi) hU rfl).imp_right
                  (Nat.lt_of_le_of_lt (write_bad_le c v _ e w))
              · rw [if_neg hd, if_neg (mt of_decide_eq_true hd)]
                exact ih F v ⟨idx + 1, del, old, calls + 1, false⟩ w a1 a2 hlt (Nat.le_succ_of_le hdi) hU rfl

theorem gen_df_next (c : Cfg) (cb : Nat → Elem → Option Bool) (v : VS) (s : DF) (w : W)
    (h1 : s.idx ≤ s.oldLen) (h2 : s.del ≤ s.idx) (hU : s.oldLen < USIZE) (hp : s.panicFlag = false) :
    Gen.Fn.df_next c cb s.idx s.del s.oldLen s.calls s.panicFlag (v, w) = dfOf (dfNext c cb (s.oldLen - s.idx + 1) v s w) ∨
      w.bad.length < (dfNext c cb (s.oldLen - s.idx + 1) v s w).2.2.1.bad.length := by
  unfold Gen.Fn.df_next
  exact gen_df_next_loop c cb _ _ _ _ (s.oldLen - s.idx + 1) USIZE v s w (Nat.lt_succ_self _)
    (Nat.lt_of_le_of_lt (Nat.sub_le _ _) hU) h1 h2 hU hp

/-- what `Drop for DrainFilter` leaves behind once the draining loop has ended in the model state `D` -/
def dfFinish (c : Cfg) (D : VS × DF × W × Bool) : VS × W × Bool :=
  ((dfBackshift c D.1 D.2.1 D.2.2.1).1, (dfBackshift c D.1 D.2.1 D.2.2.1).2, D.2.2.2)

/-- the model's result of the destructor in the translation's shape (`true` = it returned, `false` = it unwound; `fl`: the fields as
the translation leaves them) -/
def dfDropOf (m : VS × W × Bool) (fl : Nat × Nat × Nat × Nat × Bool) : VW × Outcome (Except Unit Unit × Nat × Nat × Nat × Nat × Bool) :=
  ((m.1, m.2.1), .ok (if m.2.2 then .ok () else .error (), fl))

/-- the guard running while a panic unwinds out of the destructor -/
theorem gen_df_unwind (c : Cfg) (cb : Nat → Elem → Option Bool) (v : VS) (s : DF) (w : W) (h1 : s.del ≤ s.idx) (h2 : s.idx ≤ s.oldLen) :
    (stateOf (Gen.Fn.df_backshift_drop c cb s.idx s.del s.oldLen s.calls s.panicFlag (v, w)),
        Outcome.ok ((Except.error () : Except Unit Unit), s.idx, s.del, s.oldLen, s.calls, s.panicFlag)) =
      dfDropOf (dfFinish c (v, s, w, false)) (s.idx, s.del, s.oldLen, s.calls, s.panicFlag) := by
  rw [gen_df_backshift_drop c cb v s w h1 h2]
  rfl

theorem gen_df_drop_k (c : Cfg) (cb : Nat → Elem → Option Bool) (j1 j2 j3 j4 : Nat) (j5 : Bool) (v : VS) (s : DF) (w : W)
    (h1 : s.del ≤ s.idx) (h2 : s.idx ≤ s.oldLen) :
    Gen.Fn.df_drop.k_1 c cb j1 j2 j3 j4 j5 s.idx s.del s.oldLen s.calls s.panicFlag (v, w) =
      dfDropOf (dfFinish c (v, s, w, true)) (s.idx, s.del, s.oldLen, s.calls, s.panicFlag) := by
  unfold Gen.Fn.df_drop.k_1
  rw [gen_df_backshift_drop c cb v s w h1 h2]
  rfl

theorem gen_df_drain_loop (c : Cfg) (cb : Nat → Elem → Option Bool) (j1 j2 j3 j4 : Nat) (j5 : Bool) :
    ∀ (f F : Nat) (v : VS) (s : DF) (w : W), s.oldLen - s.idx < f → s.oldLen - s.idx < F → s.idx ≤ s.oldLen → s.del ≤ s.idx →
      s.oldLen < USIZE → s.panicFlag = false →
      (∃ fl, Gen.Fn.df_drop.loop_2 c cb j1 j2 j3 j4 j5 F s.idx s.del s.oldLen s.calls s.panicFlag (v, w) =
        dfDropOf (dfFinish c (dfDrain c cb f v s w)) fl) ∨
      w.bad.length < (dfDrain c cb f v s w).2.2.1.bad.length := by
  intro f
  induction f with
  | zero => intro F v s w h; exact absurd h (Nat.not_lt_zero _)
  | succ f ih =>
    intro F v s w hf hF hio hdi hU hpf
    cases F with
    | zero => exact absurd hF (Nat.not_lt_zero _)
    | succ F =>
      rcases gen_df_next c cb v s w hio hdi hU hpf with hg | hlt
      · obtain ⟨i1, i2, i3, i4, i5⟩ := dfNext_inv c cb (s.oldLen - s.idx + 1) v s w hio hdi hpf
        have hle := dfNext_bad_le c cb (s.oldLen - s.idx + 1) v s w
        rw [dfDrain_succ]
        unfold Gen.Fn.df_drop.loop_2
        rw [hg]
        -- from here on the model's `next` is an opaque result `(v', s', w', r)`
        generalize dfNext c cb (s.oldLen - s.idx + 1) v s w = m at i1 i2 i3 i4 i5 hle ⊢
        obtain ⟨v', s', w', r⟩ := m
        dsimp only at i1 i2 i3 i4 i5 hle ⊢
        rw [← i1] at i2
        obtain _ | _ | e := r
        · exact Or.inl ⟨_, gen_df_unwind c cb v' s' w' i3 i2⟩
        · exact Or.inl ⟨_, gen_df_drop_k c cb j1 j2 j3 j4 j5 v' s' w' i3 i2⟩
        · have hb := dropElem_bad c w' e
          dsimp only [dfOf, bindW, RsM.drop_local]
          generalize dropElem c w' e = de at hb ⊢
          obtain ⟨w1, p⟩ := de
          cases p with
          | true => exact Or.inl ⟨_, gen_df_unwind c cb v' s' w1 i3 i2⟩
          | false =>
            have hprog := i5 e rfl
            exact (ih F v' s' w1 (by omega) (by omega) i2 i3 (i1 ▸ hU) (i4 (by simp))).imp_right (Nat.lt_of_le_of_lt (hb ▸ hle))
      · -- the model went on after the flagged read; nothing later removes the flag
        exact Or.inr (Nat.lt_of_lt_of_le hlt (dfDrain_next_le c cb f (dfDrain_bad_le c cb f) v s w))

/-- `Drop for DrainFilter` (with its `BackshiftOnDrop` guard running at the end and while unwinding) as translated is the
model's `dfDrop`, or stops at a read that the model flags -/
theorem gen_df_drop (c : Cfg) (cb : Nat → Elem → Option Bool) (v : VS) (s : DF) (w : W)
    (h1 : s.idx ≤ s.oldLen) (h2 : s.del ≤ s.idx) (hU : s.oldLen < USIZE) :
    (∃ fl, Gen.Fn.df_drop c cb s.idx s.del s.oldLen s.calls s.panicFlag (v, w) = dfDropOf (dfDrop c cb v s w) fl) ∨
      w.bad.length < (dfDrain c cb (s.oldLen - s.idx + 1) v s w).2.2.1.bad.length := by
  rw [dfDrop_unfold]
  unfold Gen.Fn.df_drop
  cases hp : s.panicFlag with
  | true =>
    have := gen_df_drop_k c cb s.idx s.del s.oldLen s.calls s.panicFlag v s w h2 h1
    rw [hp] at this
    exact Or.inl ⟨_, this⟩
  | false =>
    have := gen_df_drain_loop c cb s.idx s.del s.oldLen s.calls s.panicFlag (s.oldLen - s.idx + 1) USIZE v s w
      (Nat.lt_succ_self _) (Nat.lt_of_le_of_lt (Nat.sub_le _ _) hU) h1 h2 hU hp
    rw [hp] at this
    exact this

/-- `Vec::retain` as translated (`self.drain_filter(|x| !f(x));`, the iterator a temporary) is the model's `retain`,
wherever the model records no UB step -/
theorem gen_vec_retain (c : Cfg) (v : VS) (cb : Nat → Elem → Option Bool) (w : W) (hU : v.len < USIZE)
    (hbad : (dfDrain c (fun k e => (cb k e).map (!·)) (v.len + 1) { v with len := 0 } ⟨0, 0, v.len, 0, false⟩ w).2.2.1.bad = w.bad) :
    toModel (Gen.Fn.vec_retain c cb (v, w)) = V.retain c v cb w := by
  rw [retain_eq]
  unfold Gen.Fn.vec_retain
  rw [gen_vec_drain_filter, bindW_ok]
  rcases gen_df_drop c (fun k e => (cb k e).map (!·)) { v with len := 0 } ⟨0, 0, v.len, 0, false⟩ w (Nat.zero_le _) (Nat.le_refl 0) hU
    with ⟨fl, hg⟩ | hlt
  · dsimp only at hg ⊢
    rw [hg]
    rcases dfDrop c (fun k e => (cb k e).map (!·)) { v with len := 0 } ⟨0, 0, v.len, 0, false⟩ w with ⟨a, b, _ | _⟩ <;> rfl
  · exact absurd (Nat.lt_of_lt_of_le hlt (Nat.le_of_eq (congrArg List.length hbad))) (Nat.lt_irrefl _)

#print axioms gen_vec_retain
#print axioms gen_vec_drain_filter
#print axioms gen_df_backshift_drop
#print axioms gen_df_next
#print axioms gen_df_drop

theorem gen_df_size_hint (c : Cfg) (cb : Nat → Elem → Option Bool) (idx del oldLen calls : Nat) (pf : Bool) (h : idx ≤ oldLen) :
    Gen.Fn.df_size_hint c cb idx del oldLen calls pf = .ok (.ok (0, some (oldLen - idx)), idx, del, oldLen, calls, pf) := by
  simp [Gen.Fn.df_size_hint, h]

#print axioms gen_df_size_hint

end Bump.V
