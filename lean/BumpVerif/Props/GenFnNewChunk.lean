import BumpVerif.Props.GenFnFooter
import BumpVerif.Gen.FnNewChunk
/-! # The translated `Bump::new_chunk` of `src/lib.rs` equals the hand-written model -/
namespace Bump
open Rs Gen

theorem newChunk_cases (E : Nat) (held : List Chunk) (M : Nat) (d : Details) (r p : Nat) (s : St) :
    ∃ s' o, newChunk E held M d r p s = (s', o) ∧ (s' = s ∨ s' = (s.malloc d.size d.align).1) ∧
      (o = .ok none ∨ o = .envBad ∨ (∃ w, o = .bad w) ∨
        ∃ addr ptr, mallocOK E held d.size d.align addr = true ∧ o = .ok (some ⟨addr, d.size, d.align, ptr, p + d.nswf⟩)) := by
  unfold newChunk
  by_cases h1 : (!validLayout d.size d.align) = true
  · rw [if_pos h1]; exact ⟨_, _, rfl, .inl rfl, .inl rfl⟩
  rw [if_neg h1]
  by_cases h2 : d.size < r
  · rw [if_pos h2]; exact ⟨_, _, rfl, .inl rfl, .inr (.inr (.inl ⟨_, rfl⟩))⟩
  rw [if_neg h2]
  rcases s.malloc d.size d.align with ⟨s1, _ | addr⟩
  · exact ⟨_, _, rfl, .inr rfl, .inl rfl⟩
  dsimp only
  by_cases hok : (!mallocOK E held d.size d.align addr) = true
  · rw [if_pos hok]; exact ⟨_, _, rfl, .inr rfl, .inr (.inl rfl)⟩
  rw [if_neg hok]
  have bad : ∀ w, ∃ s' o, ((s1, Outcome.bad w) : St × Outcome (Option Chunk)) = (s', o) ∧ (s' = s ∨ s' = s1) ∧
      (o = .ok none ∨ o = .envBad ∨ (∃ w, o = .bad w) ∨
        ∃ addr ptr, mallocOK E held d.size d.align addr = true ∧ o = .ok (some ⟨addr, d.size, d.align, ptr, p + d.nswf⟩)) :=
    fun w => ⟨_, _, rfl, .inr rfl, .inr (.inr (.inl ⟨_, rfl⟩))⟩
  by_cases h3 : (addr + d.nswf) % CHUNK_ALIGN ≠ 0
  · rw [if_pos h3]; exact bad _
  rw [if_neg h3]
  split
  · exact bad _
  split
  · exact bad _
  · exact ⟨_, _, rfl, .inr rfl, .inr (.inr (.inr ⟨_, _, by simpa using hok, rfl⟩))⟩

theorem malloc_arena (s : St) (size align : Nat) : (s.malloc size align).1.a = s.a := by
  unfold St.malloc; cases s.ans <;> rfl

theorem newChunk_arena (E : Nat) (held : List Chunk) (M : Nat) (d : Details) (r p : Nat) (s : St) :
    (newChunk E held M d r p s).1.a = s.a := by
  obtain ⟨s', o, h, rfl | rfl, _⟩ := newChunk_cases E held M d r p s <;> rw [h]
  exact malloc_arena ..

theorem newChunk_ne_err (E : Nat) (held : List Chunk) (M : Nat) (d : Details) (r p : Nat) (s : St) :
    (newChunk E held M d r p s).2 ≠ .err ∧ (newChunk E held M d r p s).2 ≠ .panic := by
  obtain ⟨s', o, h, _, rfl | rfl | ⟨w, rfl⟩ | ⟨_, _, _, rfl⟩⟩ := newChunk_cases E held M d r p s <;> rw [h] <;>
    exact ⟨nofun, nofun⟩

theorem newChunk_footer_ne {E : Nat} {held : List Chunk} {M : Nat} {d : Details} {r p : Nat} {s s' : St} {c : Chunk}
    (hd : d.size = d.nswf + FOOTER_SIZE)
    (h : newChunk E held M d r p s = (s', .ok (some c))) : c.footer ≠ (emptyChunk E).footer := by
  obtain ⟨_, o, h', _, rfl | rfl | ⟨w, rfl⟩ | ⟨addr, ptr, hmk, rfl⟩⟩ := newChunk_cases E held M d r p s <;>
    rw [h] at h' <;> injection h' with _ h' <;> try cases h'
  simp only [mallocOK, Bool.and_eq_true, decide_eq_true_eq, Bool.or_eq_true] at hmk
  have hF := FS
  rw [emptyChunk_footer]; show addr + (d.size - FOOTER_SIZE) ≠ E
  omega

theorem gen_new_chunk (E M : Nat) (d : Details) (reqSz reqAl : Nat) (prev : Chunk) (s : St)
    (hM : P2 M) (hd : d.size = d.nswf + FOOTER_SIZE) :
    simS (Gen.Fn.new_chunk E M d ⟨reqSz, reqAl⟩ prev s) (newChunk E s.a.chunks M d reqSz prev.ab s) := by
  unfold Gen.Fn.new_chunk newChunk
  dsimp only
  rw [gen_layout_from_size_align]
  by_cases hv : validLayout d.size d.align = true
  case neg => rw [if_neg hv, if_pos (by simp [hv])]; exact simS_refl _
  rw [if_pos hv, if_neg (by simp [hv])]
  dsimp only [reify, pureO_ok]
  refine simS_assert (by simp) fun _ => ?_
  unfold Rs.malloc
  rcases hm : s.malloc d.size d.align with ⟨s1, _ | addr⟩
  · exact simS_refl _
  dsimp only
  by_cases hok : mallocOK E s.a.chunks d.size d.align addr = true
  case neg => rw [if_pos (by simpa using hok), if_pos (by simpa using hok)]; exact simS_refl _
  rw [if_neg (by simp [hok]), if_neg (by simp [hok]), bindO_ok]
  have hmk := hok
  simp only [mallocOK, Bool.and_eq_true, decide_eq_true_eq] at hmk
  obtain ⟨⟨⟨⟨⟨h0, hal⟩, hsp⟩, _⟩, _⟩, _⟩ := hmk
  obtain ⟨hpal, _⟩ := validLayout_p2 hv
  rw [show nonNullNew addr = some addr by simp [nonNullNew, h0]]
  dsimp only
  have hadd : addr + d.nswf < USIZE := by unfold USIZE; omega
  have hal0 : d.align ≠ 0 := by have := hpal.exp; obtain ⟨k, _, _, hp⟩ := this; omega
  have hc0 : CHUNK_ALIGN ≠ 0 := by decide
  have hM0 : M ≠ 0 := by have := hM.exp; obtain ⟨k, _, _, hp⟩ := this; omega
  rw [if_pos hadd, if_pos hal0, hal, if_pos (show (0 == 0) = true from rfl), if_pos hc0, gen_round_mut_ptr_down_to _ _ hM,
    pureO_ok, if_pos hM0]
  generalize wsub (addr + d.nswf) ((addr + d.nswf) % M) = ptr
  refine simS_assert (by simp) fun _ => ?_
  simp only [beq_iff_eq, decide_eq_true_eq, ne_eq]
  by_cases hfin : ¬ptr % M = 0 ∨ ¬addr < ptr ∨ ¬ptr - addr = d.nswf
  · rw [if_pos hfin]
    refine simS_assert_bad fun h1 => simS_assert_bad fun h2 => simS_assert_bad fun _ => simS_assert_bad fun h3 => ?_
    exact hfin.elim (absurd h1) fun h => h.elim (absurd h2) (absurd h3)
  · rw [if_neg hfin]
    obtain ⟨h1, h2, h3⟩ : ptr % M = 0 ∧ addr < ptr ∧ ptr - addr = d.nswf := by
      simpa only [not_or, Decidable.not_not] using hfin
    rw [if_pos h1, if_pos h2, if_pos (Nat.le_of_lt h2), if_pos h3]
    refine simS_assert Nat.not_lt.symm fun _ => ?_
    -- the footer is written at `data + nswf`, which is where `Chunk.footer` puts it
    rw [if_pos (show (Chunk.mk addr d.size d.align ptr (prev.ab + d.nswf)).footer = addr + d.nswf by
      rw [Chunk.footer, hd, Nat.add_sub_cancel])]
    exact simS_refl _

#print axioms gen_new_chunk
end Bump
