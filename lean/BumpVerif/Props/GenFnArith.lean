import BumpVerif.Model.Rs
import BumpVerif.Gen.FnArith
import BumpVerif.Proofs.Arith
/-! # The translated arithmetic kernels of `src/lib.rs` equal the hand-written model

`Gen/FnArith.lean` is regenerated from the Rust source on every run (tools/rs2lean.py); these theorems tie
each generated body to the model function the property theorems are stated about. -/
namespace Bump
open Rs

theorem band_low (x k : Nat) : band x (2 ^ k - 1) = x % 2 ^ k := by
  unfold band; exact Nat.and_two_pow_sub_one_eq_mod x k

theorem band_bnot_low (x k : Nat) (hx : x < USIZE) (hk : k ≤ 64) :
    band x (bnot (2 ^ k - 1)) = x / 2 ^ k * 2 ^ k := by
  unfold band bnot USIZE_MAX
  unfold USIZE at hx
  apply Nat.eq_of_testBit_eq
  intro i
  have h1 : 2 ^ 64 - 1 - (2 ^ k - 1) = 2 ^ 64 - ((2 ^ k - 1) + 1) := by omega
  have hlt : 2 ^ k - 1 < 2 ^ 64 := by
    have : 2 ^ k ≤ 2 ^ 64 := Nat.pow_le_pow_right (by omega) hk
    omega
  rw [Nat.testBit_and, h1, Nat.testBit_two_pow_sub_succ hlt, Nat.testBit_two_pow_sub_one]
  rw [Nat.testBit_mul_two_pow, Nat.testBit_div_two_pow]
  by_cases hik : k ≤ i
  · have e : i - k + k = i := by omega
    have hnk : ¬ i < k := by omega
    simp only [hik, e, hnk, decide_true, decide_false, Bool.not_false, Bool.and_true, Bool.true_and]
    by_cases hi : i < 64
    · simp [hi]
    · have h2 : 2 ^ 64 ≤ 2 ^ i := Nat.pow_le_pow_right (by omega) (by omega)
      have := Nat.testBit_lt_two_pow (Nat.lt_of_lt_of_le hx h2)
      simp [hi, this]
  · have : i < k := by omega
    simp [hik, this]

structure P2 (d : Nat) : Prop where
  pow : isPow2 d = true
  lt : d < USIZE

theorem P2.of_isPow2 {n : Nat} (h : IsPow2 n) (hlt : n < USIZE) : P2 n := ⟨isPow2_iff.2 h, hlt⟩

theorem P2.exp {d : Nat} (h : P2 d) : ∃ k, d = 2 ^ k ∧ k ≤ 64 ∧ 0 < d := by
  obtain ⟨k, rfl⟩ := isPow2_iff.1 h.pow
  refine ⟨k, rfl, ?_, Nat.pow_pos (by omega)⟩
  apply Nat.le_of_not_lt; intro hk
  have : 2 ^ 64 ≤ 2 ^ k := Nat.pow_le_pow_right (by omega) (by omega)
  have := h.lt; unfold USIZE at this; omega

theorem P2.pos {d : Nat} (h : P2 d) : 0 < d := h.exp.elim fun _ hk => hk.2.2

theorem roundUpTo_lt {n d x : Nat} (hd : 0 < d) (h : roundUpTo n d = some x) : x < USIZE := by
  have := roundUpTo_some hd h; omega

theorem gen_round_up_to (n d : Nat) (hd : P2 d) (_hn : n < USIZE) :
    Gen.Fn.round_up_to n d = .ok (roundUpTo n d) := by
  obtain ⟨k, rfl, hk, hpos⟩ := hd.exp
  unfold Gen.Fn.round_up_to roundUpTo checkedAdd
  simp only [hd.pow, hpos, decide_true, if_true]
  have h1 : 1 ≤ 2 ^ k := hpos
  simp only [h1, if_true]
  by_cases h : n + (2 ^ k - 1) < USIZE
  · simp only [h, if_true]; rw [band_bnot_low _ _ h hk]
  · simp only [h, if_false]

theorem gen_round_down_to (n d : Nat) (hd : P2 d) (hn : n < USIZE) :
    Gen.Fn.round_down_to n d = .ok (roundDownTo n d) := by
  obtain ⟨k, rfl, hk, hpos⟩ := hd.exp
  unfold Gen.Fn.round_down_to roundDownTo
  have h1 : 1 ≤ 2 ^ k := hpos
  simp only [hd.pow, hpos, decide_true, if_true, h1]
  rw [band_bnot_low _ _ hn hk]

theorem gen_round_mut_ptr_down_to (p d : Nat) (hd : P2 d) :
    Gen.Fn.round_mut_ptr_down_to p d = .ok (wsub p (p % d)) := by
  obtain ⟨k, rfl, hk, hpos⟩ := hd.exp
  unfold Gen.Fn.round_mut_ptr_down_to
  have h1 : 1 ≤ 2 ^ k := hpos
  simp only [hd.pow, hpos, decide_true, if_true, h1, band_low]

/-- `round_up_to_unchecked`: the `None` case is `unreachable_unchecked` -/
def roundUpToUnchecked (n d : Nat) : Outcome Nat :=
  match roundUpTo n d with
  | some x => .ok x
  | none => .bad "round_up_to_unchecked: debug_assert!(false)"

theorem gen_round_up_to_unchecked (n d : Nat) (hd : P2 d) (hn : n < USIZE) :
    Gen.Fn.round_up_to_unchecked n d = roundUpToUnchecked n d := by
  unfold Gen.Fn.round_up_to_unchecked roundUpToUnchecked
  rw [gen_round_up_to n d hd hn]
  simp only [bindP]
  cases roundUpTo n d <;> rfl

theorem gen_is_pointer_aligned_to (p a : Nat) (ha : P2 a) (hp : p < USIZE) :
    Gen.Fn.is_pointer_aligned_to p a = .ok (p % a == 0) := by
  simp only [Gen.Fn.is_pointer_aligned_to, gen_round_down_to p a ha hp]
  obtain ⟨k, rfl, hk, hpos⟩ := ha.exp
  simp only [ha.pow, if_true, bindP, roundDownTo]
  congr 1
  have := Nat.div_add_mod p (2 ^ k)
  have hm : 2 ^ k * (p / 2 ^ k) = p / 2 ^ k * 2 ^ k := Nat.mul_comm ..
  generalize p / 2 ^ k * 2 ^ k = q at *
  generalize p % 2 ^ k = r at *
  rw [Bool.eq_iff_iff]; simp only [beq_iff_eq]; omega

theorem gen_round_mut_ptr_up_to_unchecked (p d : Nat) (hd : P2 d) (hp : p < USIZE) :
    (∃ x, roundUpTo p d = some x ∧ Gen.Fn.round_mut_ptr_up_to_unchecked p d = .ok x) ∨
    (roundUpTo p d = none ∧ ∃ w, Gen.Fn.round_mut_ptr_up_to_unchecked p d = .bad w) := by
  have hpos := hd.pos
  unfold Gen.Fn.round_mut_ptr_up_to_unchecked
  rw [gen_round_up_to_unchecked p d hd hp]
  simp only [hd.pow, hpos, decide_true, if_true]
  unfold roundUpToUnchecked
  cases h : roundUpTo p d with
  | none => right; exact ⟨rfl, _, rfl⟩
  | some x =>
    left
    refine ⟨x, rfl, ?_⟩
    have hx := (roundUpTo_some hpos h).1
    have hx2 : x < USIZE := roundUpTo_lt hpos h
    simp only [bindP, hx, if_true]
    have : p + (x - p) = x := by omega
    simp [this, hx2]

theorem gen_layout_from_size_align (sz al : Nat) :
    Gen.Fn.layout_from_size_align sz al =
      if validLayout sz al then .ok ⟨sz, al⟩ else .err := by
  unfold Gen.Fn.layout_from_size_align layoutFromSizeAlign
  by_cases h : validLayout sz al = true <;> simp [h]

theorem validLayout_p2 {sz al : Nat} (h : validLayout sz al = true) : P2 al ∧ sz < USIZE := by
  simp only [validLayout, Bool.and_eq_true, decide_eq_true_eq] at h
  obtain ⟨⟨h1, h2⟩, h3⟩ := h
  refine ⟨⟨h1, ?_⟩, ?_⟩ <;> unfold USIZE <;> omega

#print axioms gen_round_up_to
#print axioms gen_round_down_to
#print axioms gen_round_mut_ptr_down_to
#print axioms gen_round_up_to_unchecked
#print axioms gen_is_pointer_aligned_to
#print axioms gen_round_mut_ptr_up_to_unchecked
#print axioms gen_layout_from_size_align
end Bump
