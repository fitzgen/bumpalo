import BumpVerif.Proofs.Ops
/-! # C07 — the allocation limit is never exceeded by acquiring memory -/
namespace Bump.C07
open Bump Gen

/-- Whenever an allocation acquires a new chunk while a limit `L` is set, the bytes held for
allocation before (`allocated_bytes()` = sum of usable sizes, C08) plus the new chunk's usable
size do not exceed `L` — including when the limit is already below what is held (then no chunk is
acquired at all). -/
theorem limit_respected {E sz al p L c} (f : Bool) (s : St) (hE : EnvOK E) (h : ArenaWF E s.a)
    (hA : IsPow2 al) (hlay : sz + al ≤ 2 ^ 63) (hL : s.a.limit = some L)
    (hok : (allocMaybe E f sz al s).2 = .ok p)
    (hnew : (allocMaybe E f sz al s).1.a.chunks = c :: s.a.chunks) :
    sumUsable s.a.chunks + usable c ≤ L := by
  have := ((allocMaybe_spec f s hE h hA hlay).pushed hok hnew).2.2.1 L hL
  rwa [show s.a.allocatedBytes E = sumUsable s.a.chunks from h.ab] at this

/-- nothing is acquired once the limit is at or below what is held -/
theorem no_chunk_when_exhausted {E sz al p L} (f : Bool) (s : St) (hE : EnvOK E) (h : ArenaWF E s.a)
    (hA : IsPow2 al) (hlay : sz + al ≤ 2 ^ 63) (hL : s.a.limit = some L) (hex : L ≤ sumUsable s.a.chunks)
    (hok : (allocMaybe E f sz al s).2 = .ok p) :
    (allocMaybe E f sz al s).1.a.chunks.length = s.a.chunks.length := by
  have sp := allocMaybe_spec f s hE h hA hlay
  obtain ⟨_, _, _, _, _, refs, _, hcase⟩ := sp.ok p hok
  rcases hcase with ⟨_, hlen⟩ | ⟨c', _, _, hpos, hlim, _⟩
  · exact hlen
  · have h1 := hlim L hL
    rw [show s.a.allocatedBytes E = sumUsable s.a.chunks from h.ab] at h1
    omega

/-- a request that fits in the space left in the current chunk succeeds whatever the limit: the
fast path never consults the limit (and carries it along unchanged) -/
theorem fast_ignores_limit (E : Nat) (a : Arena) (sz al : Nat) (l : Option Nat) :
    tryFast E { a with limit := l } sz al =
      match tryFast E a sz al with
      | .ok (some (a', p)) => .ok (some ({ a' with limit := l }, p))
      | .ok none => .ok none
      | .err => .err
      | .panic => .panic
      | .bad w => .bad w
      | .envBad => .envBad := by
  cases a with
  | mk M chunks limit =>
  have hcur : ({ (⟨M, chunks, limit⟩ : Arena) with limit := l } : Arena).cur E = (⟨M, chunks, limit⟩ : Arena).cur E := rfl
  unfold tryFast
  simp only [hcur]
  generalize hc : (⟨M, chunks, limit⟩ : Arena).cur E = c at *
  by_cases h1 : fastPre M c = true
  · simp only [h1, Bool.not_true, Bool.false_eq_true, ↓reduceIte]
    by_cases h2 : (decide (al ≥ M) && (roundUpTo sz al).isNone) = true
    · simp only [h2, ↓reduceIte]
    · simp only [h2, Bool.false_eq_true, ↓reduceIte]
      cases allocFast M c sz al with
      | none => rfl
      | some p =>
        simp only
        by_cases h3 : fastPost M c al p = true
        · simp only [h3, Bool.not_true, Bool.false_eq_true, ↓reduceIte]
          unfold setCurPtr
          cases chunks with
          | nil => by_cases hp : p = E <;> simp [hp]
          | cons c cs => rfl
        · simp only [h3, Bool.not_false, ↓reduceIte]
  · simp only [h1, Bool.not_false, ↓reduceIte]

/-- with no limit set the slow path's limit machinery is inert: every candidate "fits" -/
theorem no_limit_transparent (E : Nat) (a : Arena) (d : Details) (hl : a.limit = none) :
    fitsUnderLimit (limitRemaining a E) d = true ∧ ∀ ab sz base, bypassMin a.limit ab sz base = false := by
  simp [fitsUnderLimit, limitRemaining, bypassMin, hl]

example : (allocMaybe 160 true 5000 1 { a := ⟨1, [⟨4096, 496, 16, 4096, 448⟩], some 500⟩, ans := [some 8192] }).2 = .err := by decide

end Bump.C07

#print axioms Bump.C07.limit_respected
#print axioms Bump.C07.no_chunk_when_exhausted
#print axioms Bump.C07.fast_ignores_limit
#print axioms Bump.C07.no_limit_transparent
