import BumpVerif.Gen.FnVec
import BumpVerif.Proofs.VecResize
import BumpVerif.Props.GenFnRawVec
/-!
# `src/collections/vec.rs` as translated = the hand-written slot model (`Model/Vec.lean`)

Each theorem is a plain equality `RsM.toModel (Gen.Fn.vec_f … (v, w)) = V.f … v w` between the function body
regenerated from the source and the model function the C13/C15/C16/C18 theorems are about.  Hypotheses, where
present, are facts of every represented vector (`Proofs/VecRaw.lean: RepB`): `len ≤ cap()` and `cap < 2^64`.
-/
namespace Bump.V
open Bump Rs RsV RsM

@[rsv] theorem gen_vec_len (c : Cfg) (s : VW) : Gen.Fn.vec_len c s = .ok s.1.len := rfl

@[rsv] theorem gen_vec_capacity (c : Cfg) (s : VW) : Gen.Fn.vec_capacity c s = .ok (capOf c s.1) := by
  unfold Gen.Fn.vec_capacity
  rw [gen_rv_cap]; rfl

theorem gen_vec_is_empty (c : Cfg) (s : VW) : Gen.Fn.vec_is_empty c s = .ok (s.1.len == 0) := rfl

@[rsv] theorem gen_vec_set_len (c : Cfg) (n : Nat) (s : VW) :
    Gen.Fn.vec_set_len c n s = (({ s.1 with len := n }, s.2), .ok ()) := rfl

theorem gen_vec_reserve (c : Cfg) (n : Nat) (v : VS) (w : W) :
    Gen.Fn.vec_reserve c n (v, w) =
      match rawReserve c v v.len n with
      | some v' => ((v', w), .ok ())
      | none => ((v, w), .panic) := by
  unfold Gen.Fn.vec_reserve liftV
  rw [gen_rv_reserve]
  cases rawReserve c v v.len n <;> rfl

theorem gen_vec_reserve_exact (c : Cfg) (n : Nat) (v : VS) (w : W) :
    Gen.Fn.vec_reserve_exact c n (v, w) =
      match reserveGen c v v.len n true with
      | .ok v' => ((v', w), .ok ())
      | .error _ => ((v, w), .panic) := by
  unfold Gen.Fn.vec_reserve_exact liftV
  rw [gen_rv_reserve_exact]
  unfold reserveResult
  cases reserveGen c v v.len n true <;> rfl

theorem gen_vec_try_reserve (c : Cfg) (n : Nat) (v : VS) (w : W) :
    Gen.Fn.vec_try_reserve c n (v, w) =
      match reserveGen c v v.len n false with
      | .ok v' => ((v', w), .ok (.ok ()))
      | .error e => ((v, w), .ok (.error e)) := by
  unfold Gen.Fn.vec_try_reserve liftV
  rw [gen_rv_try_reserve]
  unfold tryReserveResult
  cases reserveGen c v v.len n false <;> rfl

theorem gen_vec_try_reserve_exact (c : Cfg) (n : Nat) (v : VS) (w : W) :
    Gen.Fn.vec_try_reserve_exact c n (v, w) =
      match reserveGen c v v.len n true with
      | .ok v' => ((v', w), .ok (.ok ()))
      | .error e => ((v, w), .ok (.error e)) := by
  unfold Gen.Fn.vec_try_reserve_exact liftV
  rw [gen_rv_try_reserve_exact]
  unfold tryReserveResult
  cases reserveGen c v v.len n true <;> rfl

/-- the translator's shape of a model result `(vector, effects, some () | none)`: `none` is a *panic* -/
def ofModel (m : VS × W × Option Unit) : VW × Outcome Unit :=
  ((m.1, m.2.1), match m.2.2 with | some _ => .ok () | none => .panic)

theorem toModel_ofModel (m : VS × W × Option Unit) : toModel (ofModel m) = m := by
  obtain ⟨v, w, o⟩ := m
  cases o <;> rfl

def _root_.Prod.toVW {α : Type} (x : VS × W × Outcome α) : VW × Outcome α := ((x.1, x.2.1), x.2.2)

/-! The model's functions bind pairs in `match` arms (`let (v2, w) := …`), which `simp` does not get through (it does not
terminate on `V.push`); the proofs below rewrite with their equations in projection form (`push_unfold`, `pop_eq`, …). -/

theorem gen_vec_push_k (c : Cfg) (e : Elem) (a r : Nat) (v : VS) (w : W) (h : v.len + 1 < USIZE) :
    Gen.Fn.vec_push.k_1 c e a r (v, w) =
      (({ (v.write c v.len e w).1 with len := v.len + 1 }, (v.write c v.len e w).2), .ok ()) := by
  unfold Gen.Fn.vec_push.k_1
  exact if_pos h

theorem gen_vec_push_of (c : Cfg) (v : VS) (e : Elem) (w : W) (hl : v.len ≤ capOf c v) (hc : v.cap < USIZE) :
    Gen.Fn.vec_push c e (v, w) = ofModel (V.push c v e w) := by
  have hcap := capOf_lt c v hc
  unfold Gen.Fn.vec_push
  rw [push_unfold, gen_rv_cap, pureW_ok]
  by_cases hfull : v.len = capOf c v
  · rw [if_pos (beq_iff_eq.mpr hfull), if_pos hfull, gen_vec_reserve]
    cases hr : rawReserve c v v.len 1 with
    | none => rfl
    | some v1 =>
      obtain ⟨hlt, hlen⟩ := rawReserve_some_lt hl hcap hr
      rw [bindU_ok, gen_vec_push_k c e _ _ v1 w (by omega)]
      rfl
  · rw [if_neg (mt beq_iff_eq.mp hfull), if_neg hfull, gen_vec_push_k c e _ _ v w (by omega)]
    rfl

theorem gen_vec_push (c : Cfg) (v : VS) (e : Elem) (w : W) (hl : v.len ≤ capOf c v) (hc : v.cap < USIZE) :
    toModel (Gen.Fn.vec_push c e (v, w)) = V.push c v e w := by
  rw [gen_vec_push_of c v e w hl hc, toModel_ofModel]

theorem gen_vec_push_raw (c : Cfg) (v : VS) (e : Elem) (w : W) (hl : v.len ≤ capOf c v) (hc : v.cap < USIZE) :
    Gen.Fn.vec_push c e (v, w) =
      ((V.push c v e w).1, (V.push c v e w).2.1, if (V.push c v e w).2.2.isSome then Outcome.ok () else Outcome.panic).toVW := by
  rw [gen_vec_push_of c v e w hl hc]
  rcases V.push c v e w with ⟨a, b, o⟩
  cases o <;> rfl

/-- `pop` returns an `Option<T>` of its own: `Some(None)` of the translation is the model's `none` -/
def popView : VW × Outcome (Option Elem) → VS × W × Option Elem
  | (s, .ok x) => (s.1, s.2, x)
  | (s, .bad why) => (s.1, s.2.flag why, none)
  | (s, _) => (s.1, s.2.flag "pop cannot panic", none)

theorem gen_vec_pop (c : Cfg) (v : VS) (w : W) : popView (Gen.Fn.vec_pop c (v, w)) = V.pop v w := by
  unfold Gen.Fn.vec_pop
  rw [pop_eq]
  by_cases h0 : v.len = 0
  · rw [if_pos (beq_iff_eq.mpr h0), if_pos h0]; rfl
  · rw [if_neg (mt beq_iff_eq.mp h0), if_neg h0, if_pos (show 1 ≤ (v, w).1.len from Nat.pos_of_ne_zero h0)]
    show popView (match VS.read v (v.len - 1) with | none => _ | some x => _) = _
    cases VS.read v (v.len - 1) <;> rfl

theorem gen_vec_insert_k (c : Cfg) (i : Nat) (e : Elem) (r len r1 : Nat) (v1 : VS) (w : W) (hi : i ≤ len) (hl : len + 1 < USIZE) :
    Gen.Fn.vec_insert.k_1 c i e r len r1 (v1, w) =
      (({ ((v1.copy c i (i + 1) (len - i) w).1.write c i e (v1.copy c i (i + 1) (len - i) w).2).1 with len := len + 1 },
        ((v1.copy c i (i + 1) (len - i) w).1.write c i e (v1.copy c i (i + 1) (len - i) w).2).2), .ok ()) := by
  unfold Gen.Fn.vec_insert.k_1
  exact (if_pos hi).trans (if_pos hl)

theorem gen_vec_insert (c : Cfg) (v : VS) (i : Nat) (e : Elem) (w : W) (hl : v.len ≤ capOf c v) (hc : v.cap < USIZE) :
    toModel (Gen.Fn.vec_insert c i e (v, w)) = V.insert c v i e w := by
  have hcap := capOf_lt c v hc
  unfold Gen.Fn.vec_insert
  rw [insert_unfold, gen_vec_len, pureW_ok]
  dsimp only
  by_cases hi : i ≤ v.len
  · rw [if_pos (decide_eq_true hi), if_neg (Nat.not_lt.mpr hi), gen_rv_cap, pureW_ok]
    by_cases hfull : v.len = capOf c v
    · rw [if_pos (beq_iff_eq.mpr hfull), if_pos hfull, gen_vec_reserve]
      cases hr : rawReserve c v v.len 1 with
      | none => rfl
      | some v1 =>
        obtain ⟨hlt, _⟩ := rawReserve_some_lt hl hcap hr
        rw [bindU_ok, gen_vec_insert_k c i e _ _ _ v1 w hi hlt]
        rfl
    · rw [if_neg (mt beq_iff_eq.mp hfull), if_neg hfull, gen_vec_insert_k c i e _ _ _ v w hi (by omega)]
      rfl
  · rw [if_neg (mt of_decide_eq_true hi), if_pos (Nat.not_le.mp hi)]
    rfl

theorem gen_vec_remove (c : Cfg) (v : VS) (i : Nat) (w : W) :
    toModel (Gen.Fn.vec_remove c i (v, w)) = V.remove c v i w := by
  unfold Gen.Fn.vec_remove
  rw [remove_unfold, gen_vec_len, pureW_ok]
  dsimp only
  by_cases hi : i < v.len
  · rw [if_pos (decide_eq_true hi), if_neg (not_not_intro hi)]
    unfold RsM.read
    cases v.read i with
    | none => rfl
    | some x =>
      dsimp only
      have h1 : 1 ≤ v.len := Nat.zero_lt_of_lt hi
      rw [if_pos (Nat.le_of_lt hi), if_pos (show 1 ≤ v.len - i from Nat.sub_pos_of_lt hi)]
      show toModel (if 1 ≤ v.len then _ else _) = _
      rw [if_pos h1]
      rfl
  · rw [if_neg (mt of_decide_eq_true hi), if_pos hi]
    rfl

theorem gen_vec_swap_remove (c : Cfg) (v : VS) (i : Nat) (w : W) :
    toModel (Gen.Fn.vec_swap_remove c i (v, w)) = V.swapRemove c v i w := by
  unfold Gen.Fn.vec_swap_remove RsM.read
  rw [swapRemove_unfold]
  dsimp only
  by_cases hi : i < v.len
  · have h1 : 1 ≤ v.len := Nat.zero_lt_of_lt hi
    rw [if_pos (decide_eq_true hi), if_neg (not_not_intro hi), if_pos h1]
    cases v.read (v.len - 1) with
    | none => rfl
    | some last =>
      dsimp only
      rw [if_pos h1]
      -- `read` does not look at `len`
      show toModel (match VS.read v i with | none => _ | some old => _) = match VS.read v i with | none => _ | some old => _
      cases VS.read v i <;> rfl
  · rw [if_neg (mt of_decide_eq_true hi), if_pos hi]
    rfl

/-! The model records a step with a failed precondition (dropping an uninitialised slot: UB in the source) as a flag and
goes on; the translation stops with `bad`.  The two are compared with `agree`: equal, or both flagged. -/

/-- equal, or both recorded a UB step that the state `w` before the call had not -/
def agree {α : Type} (w : W) (a b : VS × W × Option α) : Prop :=
  a = b ∨ (w.bad.length < a.2.1.bad.length ∧ w.bad.length < b.2.1.bad.length)

theorem agree_of_cases {w : W} {g : VW × Outcome Unit} {m : VS × W × Option Unit}
    (h : (∃ s, g = (s, .ok ()) ∧ m = (s.1, s.2, some ())) ∨ (∃ s, g = (s, .panic) ∧ m = (s.1, s.2, none)) ∨
      (∃ s why, g = (s, .bad why) ∧ s.2.bad = w.bad ∧ w.bad.length < m.2.1.bad.length)) :
    agree w (toModel g) m := by
  rcases h with ⟨s, rfl, rfl⟩ | ⟨s, rfl, rfl⟩ | ⟨s, why, rfl, h2, h3⟩
  · exact Or.inl rfl
  · exact Or.inl rfl
  · exact Or.inr ⟨h2 ▸ s.2.lt_flag why, h3⟩

theorem gen_slod_decrement_len (l d : Nat) (h : d ≤ l) : Gen.Fn.slod_decrement_len l d = .ok ((), l - d) := by
  unfold Gen.Fn.slod_decrement_len
  exact if_pos h

theorem gen_slod_increment_len (l d : Nat) (h : l + d < USIZE) : Gen.Fn.slod_increment_len l d = .ok ((), l + d) := by
  unfold Gen.Fn.slod_increment_len
  exact if_pos h

/-- what the translated loop of `truncate` returns, given the model's `truncLoop` result `m`: the last guard length, or the
unwinding that stores it -/
def truncView (slots : List (Option Elem)) (vlen cap : Nat) (m : Nat × W × Bool) : VW × Outcome (Nat × Nat) :=
  if m.2.2 then ((⟨slots, m.1, cap⟩, m.2.1), .panic) else ((⟨slots, vlen, cap⟩, m.2.1), .ok (m.1, m.1))

/-- the loop of `truncate`: the translation's pointer and guard move together (`ptr = local_len`) -/
theorem gen_truncate_loop (c : Cfg) (len cur : Nat) (slots : List (Option Elem)) (vlen cap : Nat) :
    ∀ (k l : Nat) (w : W), k ≤ l →
      Gen.Fn.vec_truncate.loop_1 c len cur k l l (⟨slots, vlen, cap⟩, w) = truncView slots vlen cap (truncLoop c slots k l w) ∨
      (w.bad.length < (truncLoop c slots k l w).2.1.bad.length ∧
        ∃ s' why, Gen.Fn.vec_truncate.loop_1 c len cur k l l (⟨slots, vlen, cap⟩, w) = (s', .bad why) ∧ s'.2.bad = w.bad) := by
  intro k
  induction k with
  | zero => intro l w _; exact Or.inl rfl
  | succ k ih =>
    intro l w hk
    unfold Gen.Fn.vec_truncate.loop_1 truncLoop RsM.drop_in_place VS.read
    rw [gen_slod_decrement_len l 1 (by omega), pureW_ok]
    dsimp only
    cases (slots[l - 1]?).join with
    | none => exact Or.inr ⟨w.lt_flag _, _, _, rfl, rfl⟩
    | some e =>
      dsimp only
      have hb := dropElem_bad c w e
      generalize dropElem c w e = de at hb ⊢
      obtain ⟨w1, p⟩ := de
      cases p with
      | true => exact Or.inl rfl
      | false =>
        rcases ih (l - 1) w1 (by omega) with h2 | ⟨h1, s', why, h2, h3⟩
        · exact Or.inl h2
        · exact Or.inr ⟨hb ▸ h1, s', why, h2, h3.trans hb⟩

theorem gen_vec_truncate_cases (c : Cfg) (v : VS) (n : Nat) (w : W) :
    (∃ s, Gen.Fn.vec_truncate c n (v, w) = (s, .ok ()) ∧ V.truncate c v n w = (s.1, s.2, some ())) ∨
    (∃ s, Gen.Fn.vec_truncate c n (v, w) = (s, .panic) ∧ V.truncate c v n w = (s.1, s.2, none)) ∨
    (∃ s why, Gen.Fn.vec_truncate c n (v, w) = (s, .bad why) ∧ s.2.bad = w.bad ∧
      w.bad.length < (V.truncate c v n w).2.1.bad.length) := by
  obtain ⟨slots, vlen, cap⟩ := v
  unfold V.truncate Gen.Fn.vec_truncate
  dsimp only
  rcases gen_truncate_loop c n vlen slots vlen cap (vlen - n) vlen w (Nat.sub_le _ _) with h2 | ⟨h1, s', why, h2, h3⟩
  · rw [h2]
    generalize truncLoop c slots (vlen - n) vlen w = m
    obtain ⟨l, w', p⟩ := m
    cases p with
    | false => exact Or.inl ⟨_, rfl, rfl⟩
    | true => exact Or.inr (Or.inl ⟨_, rfl, rfl⟩)
  · rw [h2]
    exact Or.inr (Or.inr ⟨s', why, rfl, h3, h1⟩)

theorem gen_vec_truncate (c : Cfg) (v : VS) (n : Nat) (w : W) :
    agree w (toModel (Gen.Fn.vec_truncate c n (v, w))) (V.truncate c v n w) :=
  agree_of_cases (gen_vec_truncate_cases c v n w)

theorem gen_vec_clear (c : Cfg) (v : VS) (w : W) :
    agree w (toModel (Gen.Fn.vec_clear c (v, w))) (V.clear c v w) := by
  unfold Gen.Fn.vec_clear V.clear
  rw [bindW_ok_id]
  exact gen_vec_truncate c v 0 w

/-! The source keeps the growing length in the `SetLenOnDrop` guard and stores it when the scope ends; the model keeps it in
`len` all along.  The loop lemma relates the two: translation at vector `vg` with guard `ll` ↔ model at `{vg with len := ll}`. -/

/-- what the translated loop of `extend_with` returns, given the model's `extendClones` result `m`: the guard's length (the
vector's own `len` is still `len0`), or the unwinding that stores it and drops the value -/
def extendView (c : Cfg) (x : Elem) (len0 : Nat) (m : VS × W × Bool) : VW × Outcome (Nat × Nat) :=
  if m.2.2 then (({ m.1 with len := len0 }, m.2.1), .ok (m.1.len, m.1.len))
  else ((m.1, (dropElem c m.2.1 x).1), .panic)

theorem gen_extend_loop (c : Cfg) (x : Elem) (n : Nat) (r : Unit) (r1 : Nat) :
    ∀ (k : Nat) (vg : VS) (ll : Nat) (w : W), ll + k < USIZE →
      Gen.Fn.vec_extend_with.loop_1 c n x r r1 k ll ll (vg, w) = extendView c x vg.len (extendClones c x k { vg with len := ll } w) := by
  intro k
  induction k with
  | zero => intro vg ll w _; rfl
  | succ k ih =>
    intro vg ll w hk
    unfold Gen.Fn.vec_extend_with.loop_1 extendClones RsM.clone_next
    dsimp only
    rcases cloneElem c w x with ⟨w', _ | e⟩
    · rfl
    · dsimp only
      rw [bindU_ok, gen_slod_increment_len ll 1 (by omega)]
      exact ih _ (ll + 1) _ (by omega)

/-- an owned local dropped as the last step of a function -/
theorem toModel_drop_local (c : Cfg) (x : Elem) (v : VS) (w : W) :
    toModel (bindW (RsM.drop_local c x (v, w)) fun s _ => (s, .ok ())) =
      (v, (dropElem c w x).1, if (dropElem c w x).2 then none else some ()) := by
  unfold RsM.drop_local
  dsimp only
  cases (dropElem c w x).2 <;> rfl

theorem gen_vec_extend_with (c : Cfg) (v : VS) (n : Nat) (x : Elem) (w : W) (hl : v.len ≤ capOf c v) (hc : v.cap < USIZE) :
    toModel (Gen.Fn.vec_extend_with c n x (v, w)) = V.extendWith c v n x w := by
  have hcap := capOf_lt c v hc
  unfold Gen.Fn.vec_extend_with
  rw [extendWith_eq, gen_vec_reserve]
  cases hr : rawReserve c v v.len n with
  | none => rfl
  | some v1 =>
    obtain ⟨hlt, hlen⟩ := rawReserve_some_lt hl hcap hr
    have hlen2 := extendClones_len c x (n - 1) v1 w
    rw [bindU_ok, gen_vec_len, pureW_ok]
    dsimp only
    rw [gen_extend_loop c x n _ _ (n - 1) v1 v1.len w (by omega)]
    change toModel (bindW (extendView c x v1.len (extendClones c x (n - 1) v1 w)) _) = _
    generalize extendClones c x (n - 1) v1 w = m at hlen2 ⊢
    obtain ⟨v2, w2, ok⟩ := m
    cases ok with
    | false => rfl
    | true =>
      show toModel (if decide (n > 0) = true then _ else _) = if n > 0 then _ else _
      by_cases hn : n > 0
      · rw [if_pos hn, if_pos (decide_eq_true hn), gen_slod_increment_len v2.len 1 (by dsimp only at hlen2; omega)]
        rfl
      · rw [if_neg hn, if_neg (mt of_decide_eq_true hn)]
        exact toModel_drop_local c x v2 w2

theorem gen_vec_resize (c : Cfg) (v : VS) (n : Nat) (x : Elem) (w : W) (hl : v.len ≤ capOf c v) (hc : v.cap < USIZE) :
    agree w (toModel (Gen.Fn.vec_resize c n x (v, w))) (V.resize c v n x w) := by
  unfold Gen.Fn.vec_resize
  rw [resize_eq, gen_vec_len, pureW_ok]
  dsimp only
  by_cases h : n > v.len
  · rw [if_pos (decide_eq_true h), if_pos h, if_pos (Nat.le_of_lt h), bindW_ok_id, gen_vec_extend_with c v (n - v.len) x w hl hc]
    exact Or.inl rfl
  · rw [if_neg (mt of_decide_eq_true h), if_neg h]
    rcases gen_vec_truncate_cases c v n w with ⟨s, h1, h2⟩ | ⟨s, h1, h2⟩ | ⟨s, why, h1, h2, h3⟩
    · rw [h1, h2]
      exact Or.inl (toModel_drop_local c x s.1 s.2)
    · rw [h1, h2]
      exact Or.inl rfl
    · rw [h1]
      exact Or.inr ⟨h2 ▸ s.2.lt_flag why, (dropElem_bad c _ x).symm ▸ h3⟩

theorem gen_vec_shrink_to_fit (c : Cfg) (v : VS) (w : W) (hb : c.esz * v.cap < USIZE) (hlim : c.esz * v.cap ≤ c.allocLimit) :
    Gen.Fn.vec_shrink_to_fit c (v, w) =
      match shrinkToFit c v with
      | some v' => ((v', w), .ok ())
      | none => ((v, w), .panic) := by
  unfold Gen.Fn.vec_shrink_to_fit
  rw [gen_vec_capacity, pureW_ok]
  by_cases h : capOf c v = v.len
  · rw [if_neg (mt bne_iff_ne.mp (not_not_intro h))]
    unfold shrinkToFit
    rw [if_pos h]
  · rw [if_pos (bne_iff_ne.mpr h)]
    unfold liftV
    rw [gen_rv_shrink_to_fit c v hb hlim h]
    cases shrinkToFit c v <;> rfl

theorem gen_vec_new_in (c : Cfg) : Gen.Fn.vec_new_in c () = .ok newVec := rfl
theorem gen_rv_new_in (c : Cfg) : Gen.Fn.rv_new_in c () = .ok newVec := rfl

theorem gen_rv_allocate_in (c : Cfg) (n : Nat) (z : Bool) :
    Gen.Fn.rv_allocate_in c n z () = match withCapacity c n with | some v => .ok v | none => .panic := by
  unfold Gen.Fn.rv_allocate_in withCapacity
  dsimp only
  cases hm : checkedMul n c.esz with
  | none => rfl
  | some bytes =>
    have hb : n * c.esz = bytes := by
      unfold checkedMul at hm
      split at hm
      · exact Option.some.inj hm
      · cases hm
    dsimp only [Gen.Fn.rv_allocate_in.k_1, gen_alloc_guard, Rs.bindP, Gen.Fn.rv_allocate_in.k_2]
    by_cases h0 : bytes = 0
    · rw [if_pos (beq_iff_eq.mpr h0), if_pos h0]; rfl
    · rw [if_neg (mt beq_iff_eq.mp h0), if_neg h0]
      unfold Rs.layoutFromSizeAlign
      cases validLayout bytes c.eal with
      | false => rfl
      | true =>
        -- the arena's buffer of `n * esz` bytes has `n` slots; both `zeroed` branches make the same call
        have he : 0 < c.esz := Nat.pos_of_ne_zero fun he => h0 (by rw [← hb, he]; rfl)
        have hdiv : bytes / c.esz = n := by rw [← hb]; exact Nat.mul_div_cancel n he
        rw [if_pos (rfl : true = true)]
        dsimp only [Gen.Fn.rv_allocate_in.k_4, arena_alloc_buf, Gen.Fn.rv_allocate_in.k_3]
        rw [hdiv, arena_serves_eq]
        cases z <;> cases (!c.allocOk || decide (bytes > c.allocLimit)) <;> rfl

theorem gen_vec_with_capacity_in (c : Cfg) (n : Nat) :
    Gen.Fn.vec_with_capacity_in c n () = match withCapacity c n with | some v => .ok v | none => .panic := by
  unfold Gen.Fn.vec_with_capacity_in Gen.Fn.rv_with_capacity_in
  rw [gen_rv_allocate_in]
  cases h : withCapacity c n with
  | none => rfl
  | some v =>
    obtain ⟨sl, l, cp⟩ := v
    cases (withCapacity_len h : l = 0)
    rfl

#print axioms gen_vec_with_capacity_in
#print axioms gen_vec_shrink_to_fit
#print axioms gen_vec_len
#print axioms gen_vec_capacity
#print axioms gen_vec_is_empty
#print axioms gen_vec_set_len
#print axioms gen_vec_reserve
#print axioms gen_vec_reserve_exact
#print axioms gen_vec_try_reserve
#print axioms gen_vec_try_reserve_exact
#print axioms gen_vec_push
#print axioms gen_vec_pop
#print axioms gen_vec_insert
#print axioms gen_vec_remove
#print axioms gen_vec_swap_remove
#print axioms gen_vec_truncate
#print axioms gen_vec_clear
#print axioms gen_vec_extend_with
#print axioms gen_vec_resize
#print axioms gen_slod_decrement_len
#print axioms gen_slod_increment_len

end Bump.V
