import BumpVerif.Gen.FnSlices
import BumpVerif.Props.GenFnVecCopy
/-!
# `Vec::extend_from_slices_copy` as translated = the model (site of defect F11)

The generated function computes the total of the slice lengths with the source's own `try_fold` of `checked_add`
(`vec_extend_from_slices_copy.fold_1`), panics when that gives `None`, reserves the total once and copies slice by slice with the
translated `extend_from_slice_copy_unchecked`.  The model's `extendFromSlicesCopy` sums in `Nat` and lets `RawVec::reserve` refuse:
the theorem shows the two agree on **every** input — in particular on totals at and above `2^64`, where a wrapping `sum()`
reserves too little (F11): a translation of such code does not satisfy this theorem.
-/
namespace Bump.V
open Bump Bump.RsM

/-- the source's `try_fold(acc, checked_add)`: the exact total when it fits a `usize`, `None` otherwise -/
theorem fold_total (srcs : List (List (Option Elem))) : ∀ acc : Nat, acc < USIZE →
    Gen.Fn.vec_extend_from_slices_copy.fold_1 srcs acc =
      if acc + (srcs.map List.length).sum < USIZE then some (acc + (srcs.map List.length).sum) else none := by
  induction srcs with
  | nil => intro acc hacc; simp [Gen.Fn.vec_extend_from_slices_copy.fold_1, hacc]
  | cons s ss ih =>
    intro acc hacc
    unfold Gen.Fn.vec_extend_from_slices_copy.fold_1
    simp only [checkedAdd, List.map_cons, List.sum_cons]
    by_cases h : acc + s.length < USIZE
    · simp only [h, if_true, ih _ h]
      simp only [Nat.add_assoc]
    · simp only [h, if_false]
      rw [if_neg]; omega

theorem capOf_copy_len (c : Cfg) (v : VS) (src : List (Option Elem)) (dst n : Nat) (w : W) :
    capOf c { (v.copyFrom c src dst w).1 with len := n } = capOf c v := by
  unfold VS.copyFrom capOf
  by_cases he : src.isEmpty = true <;> simp [he, VS.need]

/-- the unchecked copies after the single reservation: no debug assertion fires, no unchecked add wraps -/
theorem each_copySlices (c : Cfg) (srcs : List (List Elem)) : ∀ (v : VS) (w : W),
    capOf c v < USIZE → v.len + (srcs.map List.length).sum ≤ capOf c v →
    Gen.Fn.vec_extend_from_slices_copy.each_1 c (srcs.map (·.map some)) (v, w) = (copySlices c srcs v w, .ok ()) := by
  induction srcs with
  | nil => intro v w _ _; simp [Gen.Fn.vec_extend_from_slices_copy.each_1, copySlices]
  | cons s ss ih =>
    intro v w hcap hroom
    simp only [List.map_cons, List.sum_cons] at hroom
    simp only [List.map_cons]
    unfold Gen.Fn.vec_extend_from_slices_copy.each_1
    have hr1 : v.len + (s.map some).length ≤ capOf c v := by simp; omega
    rw [gen_vec_extend_from_slice_copy_unchecked c (s.map some) v w hr1 hcap]
    have hdbg : (c.dbg && decide (v.len + s.length > capOf c v)) = false := by
      have : ¬ v.len + s.length > capOf c v := by omega
      simp [this]
    simp only [bindW, copySlices, hdbg, Bool.false_eq_true, if_false, List.length_map]
    have hc2 := capOf_copy_len c v (s.map some) v.len (v.len + s.length) w
    rw [ih _ _ (by rw [hc2]; exact hcap) (by rw [hc2]; simp only []; omega)]
    simp only [copyFrom_len]

theorem gen_vec_extend_from_slices_copy_raw (c : Cfg) (srcs : List (List Elem)) (v : VS) (w : W) (hc : CfgOK c) (hb : BufOK c v)
    (hl : v.len ≤ capOf c v) :
    Gen.Fn.vec_extend_from_slices_copy c (srcs.map (·.map some)) (v, w) = ofModel (extendFromSlicesCopy c v srcs w) := by
  unfold Gen.Fn.vec_extend_from_slices_copy
  rw [fold_total _ 0 (by simp [USIZE])]
  have hsum : ((srcs.map (·.map some)).map List.length).sum = (srcs.map List.length).sum := by
    simp [List.map_map, Function.comp_def]
  simp only [hsum, Nat.zero_add]
  by_cases ht : (srcs.map List.length).sum < USIZE
  · simp only [ht, if_true, gen_vec_reserve]
    unfold extendFromSlicesCopy
    cases hr : rawReserve c v v.len (srcs.map List.length).sum with
    | none => rfl
    | some v1 =>
      obtain ⟨hb1, hlen, hcap, _, _⟩ := rawReserve_buf hc hb hl hr
      have hlt := capOf_lt c v1 hb1.capLt
      simp only [bindW]
      rw [each_copySlices c srcs v1 w hlt (by omega)]
      rcases copySlices c srcs v1 w with ⟨v2, w2⟩
      rfl
  · simp only [ht, if_false]
    have hw : wsub (capOf c v) v.len < USIZE := by unfold wsub; exact Nat.mod_lt _ (by simp [USIZE])
    unfold extendFromSlicesCopy
    rw [rawReserve_overflow (Nat.lt_of_lt_of_le hw (Nat.not_lt.mp ht)) (by omega)]
    rfl

theorem gen_vec_extend_from_slices_copy (c : Cfg) (srcs : List (List Elem)) (v : VS) (w : W) (hc : CfgOK c) (hb : BufOK c v)
    (hl : v.len ≤ capOf c v) :
    toModel (Gen.Fn.vec_extend_from_slices_copy c (srcs.map (·.map some)) (v, w)) = extendFromSlicesCopy c v srcs w := by
  rw [gen_vec_extend_from_slices_copy_raw c srcs v w hc hb hl, toModel_ofModel]

/-- F11 as a statement about the translated code: zero-sized slices of `usize::MAX` and 3 elements are refused -/
example (c : Cfg) (s : VW) (a b : List (Option Elem)) (ha : a.length = USIZE_MAX) (hb : b.length = 3) :
    Gen.Fn.vec_extend_from_slices_copy c [a, b] s = (s, .panic) := by
  unfold Gen.Fn.vec_extend_from_slices_copy
  rw [fold_total _ 0 (by simp [USIZE])]
  simp [ha, hb, USIZE, USIZE_MAX]

#print axioms gen_vec_extend_from_slices_copy_raw
#print axioms gen_vec_extend_from_slices_copy

end Bump.V
