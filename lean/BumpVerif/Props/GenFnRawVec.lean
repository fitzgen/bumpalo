import BumpVerif.Gen.FnRawVec
import BumpVerif.Proofs.RsVecCalc
import BumpVerif.Proofs.Arith
/-! # The translated capacity logic of `src/collections/raw_vec.rs` equals the hand-written model

`cap`, `alloc_guard`, `amortized_new_size`, the inlined capacity test of `(in)fallible_reserve_internal`, the
`reserve_internal_or_*` wrappers, the four public entry points `reserve`, `reserve_exact`, `try_reserve`,
`try_reserve_exact`, then `reserve_internal` itself (for `esz ≠ 0`), `current_layout`, `dealloc_buffer` and `shrink_to_fit`
are translated from the source.  Callers of `reserve_internal` reach the primitive `RsV.reserve_internal`,
which is the hand model `V.reserveInternal` (see `Model/RsVec.lean`). -/
namespace Bump.V
open Bump Rs RsV

@[rsv] theorem gen_rv_cap (c : Cfg) (v : VS) : Gen.Fn.rv_cap c v = .ok (capOf c v) := by
  unfold Gen.Fn.rv_cap capOf
  by_cases h : c.esz = 0
  · rw [if_pos (beq_iff_eq.mpr h), if_pos h]; rfl
  · rw [if_neg (mt beq_iff_eq.mp h), if_neg h]

/-- on a 64-bit target `alloc_guard` never refuses -/
@[rsv] theorem gen_alloc_guard (n : Nat) : Gen.Fn.alloc_guard n = .ok (.ok ()) := rfl

/-- `amortized_new_size` = `max(2·cap, used + extra)`, `CapacityOverflow` when the sum does not fit; the doubling is
unchecked in the source and cannot wrap for a capacity the invariant allows (`cap·2 < 2^64`) -/
theorem gen_amortized_new_size (c : Cfg) (v : VS) (used extra : Nat) (h : v.cap * 2 < USIZE) :
    Gen.Fn.amortized_new_size c used extra v = .ok (okOr (amortizedNewCap c v used extra) .capOverflow) := by
  unfold Gen.Fn.amortized_new_size amortizedNewCap
  cases checkedAdd used extra
  · rfl
  · simp only [okOr, if_pos h]

/-- what a caller of the fallible entry points sees -/
def tryReserveResult (c : Cfg) (v : VS) (used extra : Nat) (exact : Bool) : VS × Outcome (Except RErr Unit) :=
  match reserveGen c v used extra exact with
  | .ok v' => (v', .ok (.ok ()))
  | .error e => (v, .ok (.error e))

/-- what a caller of the infallible entry points sees: every error is a panic -/
def reserveResult (c : Cfg) (v : VS) (used extra : Nat) (exact : Bool) : VS × Outcome Unit :=
  match reserveGen c v used extra exact with
  | .ok v' => (v', .ok ())
  | .error _ => (v, .panic)

theorem gen_fallible_reserve_internal (c : Cfg) (v : VS) (used extra : Nat) (st : Strategy) :
    Gen.Fn.fallible_reserve_internal c used extra st v = tryReserveResult c v used extra (st == .exact) := by
  unfold Gen.Fn.fallible_reserve_internal Gen.Fn.reserve_internal_or_error tryReserveResult reserveGen reserve_internal
  rw [gen_rv_cap, pureV_ok]
  by_cases h : wsub (capOf c v) used ≥ extra
  · rw [if_pos (decide_eq_true h), if_pos h]
  · rw [if_neg (mt of_decide_eq_true h), if_neg h, bindV_ok_id, bindV_ok_id]
    cases reserveInternal c v used extra (st == .exact) with
    | ok v' => rfl
    | error e => cases e <;> rfl

theorem gen_infallible_reserve_internal (c : Cfg) (v : VS) (used extra : Nat) (st : Strategy) :
    Gen.Fn.infallible_reserve_internal c used extra st v = reserveResult c v used extra (st == .exact) := by
  unfold Gen.Fn.infallible_reserve_internal Gen.Fn.reserve_internal_or_panic reserveResult reserveGen reserve_internal
  rw [gen_rv_cap, pureV_ok]
  by_cases h : wsub (capOf c v) used ≥ extra
  · rw [if_pos (decide_eq_true h), if_pos h]
  · rw [if_neg (mt of_decide_eq_true h), if_neg h, bindV_ok_id]
    cases reserveInternal c v used extra (st == .exact) with
    | ok v' => rfl
    | error e => cases e <;> rfl

theorem gen_rv_reserve (c : Cfg) (v : VS) (used extra : Nat) :
    Gen.Fn.rv_reserve c used extra v =
      match rawReserve c v used extra with
      | some v' => (v', .ok ())
      | none => (v, .panic) := by
  simp only [Gen.Fn.rv_reserve, gen_infallible_reserve_internal, bindV_ok_id, reserveResult, rawReserve]
  show (match reserveGen c v used extra false with | .ok v' => _ | .error _ => _) = _
  cases reserveGen c v used extra false <;> rfl

theorem gen_rv_reserve_exact (c : Cfg) (v : VS) (used extra : Nat) :
    Gen.Fn.rv_reserve_exact c used extra v = reserveResult c v used extra true := by
  simp only [Gen.Fn.rv_reserve_exact, gen_infallible_reserve_internal, bindV_ok_id, beq_self_eq_true]

theorem gen_rv_try_reserve (c : Cfg) (v : VS) (used extra : Nat) :
    Gen.Fn.rv_try_reserve c used extra v = tryReserveResult c v used extra false := by
  simp only [Gen.Fn.rv_try_reserve, gen_fallible_reserve_internal, bindV_ok_id]
  rfl

theorem gen_rv_try_reserve_exact (c : Cfg) (v : VS) (used extra : Nat) :
    Gen.Fn.rv_try_reserve_exact c used extra v = tryReserveResult c v used extra true := by
  simp only [Gen.Fn.rv_try_reserve_exact, gen_fallible_reserve_internal, bindV_ok_id, beq_self_eq_true]

theorem gen_current_layout (c : Cfg) (v : VS) (h : c.esz * v.cap < USIZE) :
    Gen.Fn.current_layout c v = .ok (if v.cap = 0 then none else some ⟨c.esz * v.cap, c.eal⟩) := by
  unfold Gen.Fn.current_layout
  by_cases h0 : v.cap = 0
  · rw [if_pos (beq_iff_eq.mpr h0), if_pos h0]
  · rw [if_neg (mt beq_iff_eq.mp h0), if_neg h0, if_pos h]

theorem arena_serves_eq (c : Cfg) (bytes : Nat) : arena_serves c bytes = !(!c.allocOk || decide (bytes > c.allocLimit)) := by
  unfold arena_serves
  cases c.allocOk <;> cases decide (bytes > c.allocLimit) <;> rfl

theorem arena_realloc_eq (c : Cfg) (bytes : Nat) (v : VS) :
    arena_realloc c bytes v =
      if !c.allocOk || decide (bytes > c.allocLimit) then (v, .ok none)
      else ({ v with slots := resizeSlots v.slots (bytes / c.esz) }, .ok (some ())) := by
  unfold arena_realloc
  rw [arena_serves_eq]
  cases (!c.allocOk || decide (bytes > c.allocLimit)) <;> rfl

/-- `reserve_internal` from the point where the new capacity `nc` is known: `Layout::array`, the arena's answer,
`handle_alloc_error` for the infallible flavour, the assignment of `ptr`/`cap` -/
def growTo (c : Cfg) (f : Fallibility) (v : VS) (nc : Nat) : VS × Outcome (Except RErr Unit) :=
  match arrayLayout c.esz c.eal nc with
  | none => (v, .ok (.error .capOverflow))
  | some bytes =>
    if !c.allocOk || decide (bytes > c.allocLimit) then
      (if f == .infallible then (v, .panic) else (v, .ok (.error .allocErr)))
    else ({ v with cap := nc, slots := resizeSlots v.slots nc }, .ok (.ok ()))

theorem reserve_internal_eq (c : Cfg) (v : VS) (used extra : Nat) (f : Fallibility) (st : Strategy) :
    reserve_internal c used extra f st v =
      match (if (st == .exact) = true then checkedAdd used extra else amortizedNewCap c v used extra) with
      | none => (v, .ok (.error .capOverflow))
      | some nc => growTo c f v nc := by
  unfold reserve_internal reserveInternal growTo
  cases (if (st == .exact) = true then checkedAdd used extra else amortizedNewCap c v used extra) with
  | none => rfl
  | some nc =>
    simp only []
    cases arrayLayout c.esz c.eal nc with
    | none => rfl
    | some bytes =>
      simp only []
      cases (!c.allocOk || decide (bytes > c.allocLimit)) <;> rfl

theorem gen_rv_reserve_internal_k2 (c : Cfg) (f : Fallibility) (st : Strategy) (a1 a2 a3 nc : Nat) (l1 l2 : Layout)
    (r1 : Except RErr Unit) (u : Unit) (ol : Option Layout) (res : Option Unit) (v : VS) :
    Gen.Fn.rv_reserve_internal.k_2 c a1 a2 f st a3 nc l1 l2 r1 u ol res v =
      match res with
      | none => if f == .infallible then (v, .panic) else (v, .ok (.error .allocErr))
      | some _ => ({ v with cap := nc }, .ok (.ok ())) := by
  unfold Gen.Fn.rv_reserve_internal.k_2
  cases res <;> cases f <;> rfl

theorem gen_rv_reserve_internal_k1 (c : Cfg) (v : VS) (used extra nc : Nat) (f : Fallibility) (st : Strategy)
    (he : c.esz ≠ 0) (hb : c.esz * v.cap < USIZE) :
    Gen.Fn.rv_reserve_internal.k_1 c used extra f st nc v = growTo c f v nc := by
  simp only [Gen.Fn.rv_reserve_internal.k_1, growTo, layoutArray]
  cases hl : arrayLayout c.esz c.eal nc with
  | none => rfl
  | some bytes =>
    -- the arena's buffer of `esz * nc` bytes has `nc` slots
    have hdiv : bytes / c.esz = nc := by
      rw [arrayLayout_some_eq hl]; exact Nat.mul_div_cancel_left nc (Nat.pos_of_ne_zero he)
    simp only [Option.map_some, okOr, rsv, gen_current_layout c v hb, arena_realloc_eq, gen_rv_reserve_internal_k2, hdiv]
    cases (!c.allocOk || decide (bytes > c.allocLimit)) <;> by_cases h0 : v.cap = 0 <;>
      simp only [h0, if_true, if_false, Bool.false_eq_true, beq_self_eq_true]

/-- `reserve_internal` as translated is the hand model the callers are proved against (sized elements; for a zero-sized `T`
the function is only reached to report `CapacityOverflow`) -/
theorem gen_rv_reserve_internal (c : Cfg) (v : VS) (used extra : Nat) (f : Fallibility) (st : Strategy)
    (he : c.esz ≠ 0) (hh : v.cap * 2 < USIZE) (hb : c.esz * v.cap < USIZE) :
    Gen.Fn.rv_reserve_internal c used extra f st v = reserve_internal c used extra f st v := by
  rw [reserve_internal_eq]
  unfold Gen.Fn.rv_reserve_internal
  cases st with
  | exact =>
    simp only [beq_self_eq_true, if_true, gen_rv_reserve_internal_k1 c v used extra _ f _ he hb]
    cases checkedAdd used extra <;> rfl
  | amortized =>
    simp only [gen_amortized_new_size c v used extra hh, rsv, gen_rv_reserve_internal_k1 c v used extra _ f _ he hb]
    cases amortizedNewCap c v used extra <;> rfl

theorem gen_dealloc_buffer (c : Cfg) (v : VS) (hb : c.esz * v.cap < USIZE) : Gen.Fn.dealloc_buffer c v = (v, .ok ()) := by
  unfold Gen.Fn.dealloc_buffer
  simp only [gen_current_layout c v hb, rsv]
  by_cases h0 : v.cap = 0 <;> simp only [h0, if_true, if_false, ite_self]

/-- `hlim`: the buffer the vector holds was served by the arena, so the smaller one is within the arena's limit too -/
theorem gen_rv_shrink_to_fit (c : Cfg) (v : VS) (hb : c.esz * v.cap < USIZE) (hlim : c.esz * v.cap ≤ c.allocLimit)
    (hne : capOf c v ≠ v.len) :
    Gen.Fn.rv_shrink_to_fit c v.len v = match shrinkToFit c v with | some v' => (v', .ok ()) | none => (v, .panic) := by
  unfold Gen.Fn.rv_shrink_to_fit shrinkToFit
  rw [if_neg hne]
  by_cases he : c.esz = 0
  · rw [if_pos (beq_iff_eq.mpr he), if_pos he]; rfl
  · have hcap : capOf c v = v.cap := if_neg he
    rw [hcap] at hne
    rw [if_neg (mt beq_iff_eq.mp he), if_neg he]
    by_cases hlt : v.cap < v.len
    · rw [if_neg (by simpa using hlt), if_pos hlt]
    · rw [if_pos (by simpa using hlt), if_neg hlt]
      by_cases h0 : v.len = 0
      · rw [if_pos (beq_iff_eq.mpr h0), if_pos h0, gen_dealloc_buffer c v hb]; rfl
      · have hle : c.esz * v.len ≤ c.esz * v.cap := Nat.mul_le_mul_left _ (by omega)
        have h1 : c.esz * v.len < USIZE := by omega
        have hdiv : c.esz * v.len / c.esz = v.len := Nat.mul_div_cancel_left _ (Nat.pos_of_ne_zero he)
        have hnl : ¬ c.esz * v.len > c.allocLimit := by omega
        simp only [mt beq_iff_eq.mp h0, bne_iff_ne.mpr hne, if_true, if_false, hb, h1, h0, arena_realloc_eq, hnl, decide_false,
          Bool.or_false, hdiv]
        cases c.allocOk <;> rfl

#print axioms gen_rv_reserve_internal
#print axioms gen_rv_shrink_to_fit
#print axioms gen_rv_cap
#print axioms gen_alloc_guard
#print axioms gen_amortized_new_size
#print axioms gen_fallible_reserve_internal
#print axioms gen_infallible_reserve_internal
#print axioms gen_rv_reserve
#print axioms gen_rv_reserve_exact
#print axioms gen_rv_try_reserve
#print axioms gen_rv_try_reserve_exact
end Bump.V
