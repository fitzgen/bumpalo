import BumpVerif.Proofs.Contents
import BumpVerif.Props.C11
/-! # C02 — allocation contents are initialised as specified and stay intact

The arena itself writes memory in exactly three places: the copy in `grow` (in place or to a
fresh block), the copy in `shrink`, and the zero fill of `grow_zeroed`.  Everything else is the
caller writing through the block it was just handed (a fresh block, disjoint from every live
block by C01).  The model records the arena's own writes as memory effects.
-/
namespace Bump.C02
open Bump Gen

/-- no allocation flavour writes memory: whatever it reserves, the bytes of every live block are
as before (the caller then initialises the fresh block, which is disjoint from all of them) -/
theorem alloc_writes_nothing {E sz al} (f : Bool) (s : St) (hE : EnvOK E) (h : ArenaWF E s.a)
    (hA : IsPow2 al) (hlay : sz + al ≤ 2 ^ 63) : (allocMaybe E f sz al s).1.mem = s.mem :=
  (allocMaybe_spec f s hE h hA hlay).mem_eq

/-- `dealloc`, `reset` and a failed initialiser's rewind write nothing -/
theorem dealloc_writes_nothing {E p sz} (s : St) (hE : EnvOK E) (h : ArenaWF E s.a)
    (hblk : (s.a.cur E).ptr = p → p + sz ≤ (s.a.cur E).footer) : (dealloc E p sz s).1.mem = s.mem :=
  (dealloc_spec s hE h hblk).2.2.1

theorem reset_writes_nothing {E} (s : St) (h : ArenaWF E s.a) : (reset s).1.mem = s.mem :=
  (reset_spec s h).2.2.1

theorem failed_init_writes_nothing {E sz al slot} (f : Bool) (s : St) (hE : EnvOK E) (h : ArenaWF E s.a)
    (hA : IsPow2 al) (hlay : sz + al ≤ 2 ^ 63) (hok : (allocMaybe E f sz al s).2 = .ok slot) :
    (allocTryWith E sz al false [] f s).1.mem = s.mem :=
  (atw_err_no_residue f s hE h hA hlay slot hok).2.2.2.1

/-- Growing or shrinking a block preserves its first `min(old,new)` bytes and changes no byte
outside the new block — in place next to other live blocks (memmove semantics downwards for
`grow`; `shrink` moves only when source and destination cannot overlap) or by reallocation. -/
theorem grow_keeps_prefix {E p osz oal nsz nal q} (m : Mem) (s : St) (hE : EnvOK E) (h : ArenaWF E s.a)
    (hb : BlockOK s.a p osz oal) (hN : IsPow2 nal) (hle : osz ≤ nsz) (hlay : nsz + nal ≤ 2 ^ 63)
    (hok : (grow E p osz oal nsz nal s).2 = .ok q) :
    (∀ i, i < osz → applyEffs m (grow E p osz oal nsz nal s).1.mem (q + i) = applyEffs m s.mem (p + i)) ∧
    (∀ a, ¬ (q ≤ a ∧ a < q + nsz) → applyEffs m (grow E p osz oal nsz nal s).1.mem a = applyEffs m s.mem a) := by
  have post := grow_spec s hE h hb hN hle hlay
  rw [hok] at post
  have := realloc_contents m post
  rw [Nat.min_eq_left hle] at this
  exact this

theorem shrink_keeps_prefix {E p osz oal nsz nal q} (m : Mem) (s : St) (hE : EnvOK E) (h : ArenaWF E s.a)
    (hb : BlockOK s.a p osz oal) (hN : IsPow2 nal) (hle : nsz ≤ osz) (hlay : nsz + nal ≤ 2 ^ 63)
    (hok : (shrink E p osz oal nsz nal s).2 = .ok q) :
    (∀ i, i < nsz → applyEffs m (shrink E p osz oal nsz nal s).1.mem (q + i) = applyEffs m s.mem (p + i)) ∧
    (∀ a, ¬ (q ≤ a ∧ a < q + nsz) → applyEffs m (shrink E p osz oal nsz nal s).1.mem a = applyEffs m s.mem a) := by
  have post := shrink_spec s hE h hb hN hle hlay
  rw [hok] at post
  have := realloc_contents m post
  rw [Nat.min_eq_right hle] at this
  exact this

/-- `alloc_slice_fill_with`: the closure is called once per index, in index order -/
theorem fill_calls_in_order (n : Nat) : (C11.fillLoop none n 0 []).1 = List.range n := by
  rw [C11.fillLoop_spec]; simp [List.range_eq_range']

/-- …and a fallible fill stops right after the first error -/
theorem try_fill_calls (n e : Nat) (he : e < n) : (C11.fillLoop (some e) n 0 []).1 = List.range (e + 1) := by
  rw [C11.fillLoop_spec]
  have hc : 0 ≤ e ∧ e < 0 + n := ⟨Nat.zero_le _, by omega⟩
  simp only [hc, and_self, ↓reduceIte, Nat.sub_zero, List.nil_append, List.range_eq_range']

example : (C11.fillLoop (some 2) 5 0 []).1 = [0, 1, 2] := by decide

/-- **All histories, all operations.** From any state satisfying the live-block invariant, along any
admissible history (allocations of every flavour, initialisers that allocate and fail, failed slice
fills, `Allocator` calls, resets, limit changes), a block that stays in the live set and is not
itself handed to `grow`/`shrink` keeps every byte: the arena's own writes (the copies in
`grow`/`shrink`, the zero fill of `grow_zeroed`) never land in it.  (The caller's writes go through
the exclusive reference to one block, which C01 keeps disjoint from all others.) -/
theorem history_contents {E} (hE : EnvOK E) (ops : List Op) (y : Sys) (inv : LiveInv E y) (hrun : RunOKFull E ops y)
    (m : Mem) (b : Block) (hu : Untouched E b ops y) (x : Nat) (hx : b.ptr ≤ x ∧ x < b.ptr + b.size) :
    applyEffs m (sysRun E ops y).1.st.mem x = applyEffs m y.st.mem x :=
  Bump.history_contents hE ops y inv hrun m b hu x hx

/-- one step: only the block handed to `grow`/`shrink` can change -/
theorem step_contents {E} (hE : EnvOK E) (y : Sys) (op : Op) (inv : LiveInv E y) (hv : OpValidFull y op)
    (hne : (sysStep E op y).2 ≠ .envBad) (m : Mem) (b : Block) (hb : b ∈ y.live) (hnt : target op ≠ some b)
    (x : Nat) (hx : b.ptr ≤ x ∧ x < b.ptr + b.size) :
    applyEffs m (sysStep E op y).1.st.mem x = applyEffs m y.st.mem x :=
  sysStep_contents hE y op inv hv hne m b hb hnt x hx

/-- non-vacuity: a history that grows one block (moving it) while another stays put -/
example :
    let y0 : Sys := ⟨{ a := ⟨1, [⟨4096, 560, 16, 4500, 512⟩], none⟩, ans := [] }, [⟨4500, 20⟩, ⟨4520, 30⟩]⟩
    let r := sysRun 160 [.agrow 4500 20 1 40 1 true] y0
    r.2 = [.ptr 4480] ∧ r.1.live = [⟨4520, 30⟩, ⟨4480, 40⟩] ∧
    r.1.st.mem = [.copy 4500 4480 20, .zero 4500 20] := by decide

end Bump.C02

#print axioms Bump.C02.alloc_writes_nothing
#print axioms Bump.C02.dealloc_writes_nothing
#print axioms Bump.C02.reset_writes_nothing
#print axioms Bump.C02.failed_init_writes_nothing
#print axioms Bump.C02.grow_keeps_prefix
#print axioms Bump.C02.shrink_keeps_prefix
#print axioms Bump.C02.fill_calls_in_order
#print axioms Bump.C02.try_fill_calls
#print axioms Bump.C02.history_contents
#print axioms Bump.C02.step_contents
