import BumpVerif.Proofs.StrProgram
import BumpVerif.Proofs.StrLossySpec
import BumpVerif.Proofs.StrUtf16
/-!
# C14 — `collections::String` behaves like `std`'s `String` and is always UTF-8

Property theorems only (helpers live in `Proofs/Str*.lean`).  `Valid b := ∃ l, b = encode l`
with `encode` built from core's `String.utf8EncodeChar`; `C14_valid_is_core` ties it to core's
`ByteArray.IsValidUTF8`.  The `List Char` functions on the right-hand sides (`++`, `take`,
`dropLast`, `filter`, …) are the meaning of `std::string::String`, validated by running `std`
side by side in the harness.
-/
namespace Bump.Str


/-- The regenerated `UTF8_CHAR_WIDTH` agrees with the lead-byte classes of RFC 3629
(`rfcWidth`: C2..DF ↦ 2, E0..EF ↦ 3, F0..F4 ↦ 4) wherever the decoder's behaviour depends on
it: for every byte `>= 128` (smaller ones never reach the lookup) the entry is 2 exactly for the
two-byte leads, 3 for the three-byte leads, 4 for the four-byte leads.  Checked by kernel
evaluation over the whole table; an edit of an entry that changes what the decoder accepts
breaks this obligation, one that cannot (the private table is not observable otherwise) does not. -/
theorem C14_table_rfc3629 :
    Gen.UTF8_CHAR_WIDTH.length = 256 ∧ ∀ n, n < 256 → 128 ≤ n →
      ((Gen.UTF8_CHAR_WIDTH.getD n 0 = 2 ↔ rfcWidth n = 2) ∧ (rfcWidth n = 3 → Gen.UTF8_CHAR_WIDTH.getD n 0 = 3)
        ∧ (rfcWidth n = 4 → Gen.UTF8_CHAR_WIDTH.getD n 0 = 4)) :=
  table_ok

theorem C14_tag_cont : Gen.TAG_CONT_U8 = 128 := by decide


theorem C14_valid_is_core (b : Bytes) : Valid b ↔ (b.toByteArray).IsValidUTF8 := Valid_iff_core b

/-- `from_utf8` accepts exactly the valid byte strings and hands the same bytes back -/
theorem C14_from_utf8_accepts_iff_valid (b : Bytes) :
    (fromUtf8 b = .ok b ↔ Valid b) ∧ (fromUtf8 b = .err ↔ ¬ Valid b) := by
  rw [Valid_iff_validate]
  by_cases h : validate b = true <;> simp [fromUtf8, h]

/-- the source's `is_char_boundary` holds exactly at the split points of the text -/
theorem C14_boundary_iff (l : List Char) (i : Nat) :
    isCharBoundary (encode l) i = true ↔ ∃ k, k ≤ l.length ∧ i = (encode (l.take k)).length :=
  boundary_iff l i

/-- UTF-8 is uniquely decodable: the text of a valid string is well defined -/
theorem C14_chars_encode (l : List Char) : chars (encode l) = l := chars_encode l


theorem C14_push (l : List Char) (c : Char) : push (encode l) c = encode (l ++ [c]) := push_encode l c
theorem C14_push_str (l t : List Char) : pushStr (encode l) (encode t) = encode (l ++ t) := pushStr_encode l t
theorem C14_extend_chars (l cs : List Char) : extendChars (encode l) cs = encode (l ++ cs) := extendChars_encode l cs
theorem C14_extend_strs (l : List Char) (ts : List (List Char)) :
    extendStrs (encode l) (ts.map encode) = encode (l ++ ts.flatten) := extendStrs_encode l ts
theorem C14_from_iter (cs : List Char) : fromIter cs = encode cs := fromIter_encode cs
theorem C14_clone_into_bump_str (s : Bytes) : clone s = s ∧ intoBumpStr s = s ∧ clear s = [] := ⟨rfl, rfl, rfl⟩

/-- `pop` returns the last character and removes exactly it; `None` on the empty string -/
theorem C14_pop (l : List Char) :
    pop (encode l) = .ok (encode l.dropLast, l.getLast?) := by
  exact pop_encode l

/-- `truncate`: on a split point keeps the prefix; beyond the end does nothing; panics exactly
when `new_len <= len` is not a char boundary -/
theorem C14_truncate (l₁ l₂ : List Char) (s : Bytes) (n : Nat) :
    truncate (encode (l₁ ++ l₂)) (encode l₁).length = .ok (encode l₁)
    ∧ (s.length < n → truncate s n = .ok s)
    ∧ (truncate s n = .panic ↔ n ≤ s.length ∧ isCharBoundary s n = false) :=
  ⟨truncate_split l₁ l₂, truncate_beyond s n, truncate_panic_iff s n⟩

/-- `insert` / `insert_str`: on a split point the text gains the new characters there; panics
exactly when the index is not a char boundary (this includes every index beyond the end) -/
theorem C14_insert (l₁ l₂ : List Char) (c : Char) (t : List Char) (s : Bytes) (i : Nat) (b : Bytes) :
    insert (encode (l₁ ++ l₂)) (encode l₁).length c = .ok (encode (l₁ ++ c :: l₂))
    ∧ insertStr (encode (l₁ ++ l₂)) (encode l₁).length (encode t) = .ok (encode (l₁ ++ t ++ l₂))
    ∧ (insert s i c = .panic ↔ isCharBoundary s i = false)
    ∧ (insertStr s i b = .panic ↔ isCharBoundary s i = false) := by
  refine ⟨insert_split l₁ l₂ c, ?_, insert_panic_iff s i c, insertStr_panic_iff s i b⟩
  rw [insertStr_split, ← encode_append, ← encode_append]

/-- `remove`: returns the character starting at the index and deletes exactly it; panics at the
end of the string and on every index that is not a char boundary -/
theorem C14_remove (l₁ l₂ : List Char) (c : Char) (l : List Char) (s : Bytes) (i : Nat) :
    remove (encode (l₁ ++ c :: l₂)) (encode l₁).length = .ok (encode (l₁ ++ l₂), c)
    ∧ remove (encode l) (encode l).length = .panic
    ∧ (isCharBoundary s i = false → remove s i = .panic) :=
  ⟨remove_split l₁ l₂ c, remove_end l, remove_nonboundary s i⟩

theorem C14_split_off (l₁ l₂ : List Char) (s : Bytes) (i : Nat) :
    splitOff (encode (l₁ ++ l₂)) (encode l₁).length = .ok (encode l₁, encode l₂)
    ∧ (splitOff s i = .panic ↔ isCharBoundary s i = false) :=
  ⟨splitOff_split l₁ l₂, splitOff_panic_iff s i⟩

/-- `retain` with a closure that returns normally is `filter` (closure called once per
character, in order; `ans k` = answer of the `k`-th call) -/
theorem C14_retain (l : List Char) (ans : Nat → Bool) :
    retain (encode l) ans none
      = .ok ⟨encode (((l.zipIdx 0).filter (fun p => ans p.2)).map (·.1)), false, l.length⟩ := by
  rw [retain_spec, retainSpec_eq_filter]

/-- `drain(start..end)`: yields the characters of the range (front and back), removes the range
when dropped, removes nothing when leaked; panics exactly when the slice `self[start..end]`
would (an end not on a boundary, beyond the end, or `start > end`) -/
theorem C14_drain (l₁ l₂ l₃ : List Char) (take back : Nat) (forget : Bool) (s : Bytes) (a b : Nat) (hv : Valid s) :
    drainCore (encode (l₁ ++ l₂ ++ l₃)) (encode l₁).length ((encode l₁).length + (encode l₂).length) take back forget
      = .ok ⟨if forget then encode (l₁ ++ l₂ ++ l₃) else encode (l₁ ++ l₃), l₂.take take,
             ((l₂.drop take).reverse).take back⟩
    ∧ (drainCore s a b take back forget = .panic ↔ sliceOk s a b = false) :=
  ⟨drainCore_split l₁ l₂ l₃ take back forget, drainCore_panic_iff s a b take back forget hv⟩

/-- range bounds away from `usize::MAX` mean what `RangeBounds` says, in either overflow mode -/
theorem C14_drain_bounds (ovf : Bool) (s : Bytes) (sb eb : Bd) (take back : Nat) (forget : Bool)
    (hs : BdOk sb) (he : BdOk eb) :
    drain ovf s sb eb take back forget = drainCore s (bdStart sb) (bdEnd s.length eb) take back forget :=
  drain_eq_core ovf s sb eb take back forget hs he

theorem C14_replace_range (ovf : Bool) (s : Bytes) (sb eb : Bd) (t : Bytes) (hs : BdOk sb) (he : BdOk eb)
    (l₁ l₂ l₃ r : List Char) :
    (replaceRange ovf s sb eb t =
      if isCharBoundary s (bdStart sb) = true ∧ isCharBoundary s (bdEnd s.length eb) = true
          ∧ bdStart sb ≤ bdEnd s.length eb
      then .ok (s.take (bdStart sb) ++ t ++ s.drop (bdEnd s.length eb)) else .panic)
    ∧ (bdStart sb = (encode l₁).length →
        bdEnd (encode (l₁ ++ l₂ ++ l₃)).length eb = (encode l₁).length + (encode l₂).length →
        replaceRange ovf (encode (l₁ ++ l₂ ++ l₃)) sb eb (encode r) = .ok (encode (l₁ ++ r ++ l₃))) := by
  refine ⟨replaceRange_eq ovf s sb eb t hs he, fun h1 h2 => ?_⟩
  rw [replaceRange_split ovf l₁ l₂ l₃ sb eb (encode r) hs he h1 h2, ← encode_append, ← encode_append]

/-- the source computes `n + 1` with `checked_add` at all three sites (flags regenerated from
src/collections/string.rs and vec.rs; reverting fix 894a021 flips them and breaks this) -/
theorem C14_range_arith_checked (ovf : Bool) :
    drainOvf ovf = true ∧ replaceOvf ovf = true ∧ vecDrainOvf ovf = true := by
  cases ovf <;> decide

/-- **Range bounds at `usize::MAX` panic in every build profile** (what `std` does): an
`Excluded` start or `Included` end of `usize::MAX` cannot be turned into a half-open range. -/
theorem C14_range_end_overflow_panics (ovf : Bool) (s t : Bytes) (sb eb : Bd) (take back : Nat) (forget : Bool) (n : Nat)
    (hn : ¬ n + 1 < USIZE) (h : sb = .excl n ∨ eb = .incl n) :
    drain ovf s sb eb take back forget = .panic ∧ replaceRange ovf s sb eb t = .panic := by
  obtain ⟨h1, h2, -⟩ := C14_range_arith_checked ovf
  rw [drain, replaceRange, h1, h2]
  exact ⟨drainWith_max s sb eb take back forget hn h, replaceRangeWith_max _ s sb eb t hn h⟩

/-- what used to go wrong (F7 of bumpalo 3.17.0), kept as a statement about the unchecked
arithmetic: with a plain `n + 1` and overflow checks off, `..=usize::MAX` wraps to an empty
range at 0 instead of panicking -/
theorem C14_range_end_unchecked_wraps (s t : Bytes) (take back : Nat) (hv : Valid s) (o₂ : Bool) :
    replaceRangeWith false false s .unbounded (.incl (USIZE - 1)) t = .ok (t ++ s)
    ∧ replaceRangeWith true o₂ s .unbounded (.incl (USIZE - 1)) t = .panic
    ∧ drainWith false s .unbounded (.incl (USIZE - 1)) take back false = .ok ⟨s, [], []⟩
    ∧ drainWith true s .unbounded (.incl (USIZE - 1)) take back false = .panic :=
  ⟨replaceRangeWith_wraps s t, replaceRangeWith_checked o₂ s t, drainWith_wraps s take back false hv, drainWith_checked s take back false⟩


/-- **`lossy_valid`**: for every byte string `from_utf8_lossy_in` returns normally (its
`debug_assert!` cannot fire) and the output is valid UTF-8 -/
theorem C14_lossy_valid (dbg : Bool) (v : Bytes) : ∃ out, fromUtf8Lossy dbg v = .ok out ∧ Valid out :=
  fromUtf8Lossy_valid dbg v

/-- **`lossy_id`**: valid input comes back unchanged -/
theorem C14_lossy_id (dbg : Bool) (v : Bytes) (hv : Valid v) : fromUtf8Lossy dbg v = .ok v := by
  obtain ⟨l, rfl⟩ := hv; exact fromUtf8Lossy_id dbg l

/-- **`lossy_spec`**: the output is the reference decoding `RefLossy` — well-formed sequences
copied, every maximal subpart of an ill-formed subsequence (Unicode 3.9; defined from Table 3-7
through `encChar`/`decodeHead`, without the width table) replaced by one U+FFFD — and that
reference is a function -/
theorem C14_lossy_spec (dbg : Bool) (v : Bytes) :
    (∃ out, fromUtf8Lossy dbg v = .ok out ∧ RefLossy v out)
    ∧ (∀ o₁ o₂, RefLossy v o₁ → RefLossy v o₂ → o₁ = o₂)
    ∧ (∀ out, RefLossy v out → fromUtf8Lossy dbg v = .ok out) :=
  ⟨fromUtf8Lossy_spec dbg v, fun _ _ h₁ h₂ => RefLossy_functional h₁ h₂, fromUtf8Lossy_eq_ref dbg v⟩

/-- the reference on examples: a lone lead, a truncated 3-byte sequence (one U+FFFD for its
two-byte maximal subpart), a surrogate encoding (three U+FFFD) -/
example : fromUtf8Lossy true [0x61, 0xC3] = .ok [0x61, 0xEF, 0xBF, 0xBD]
    ∧ fromUtf8Lossy true [0xE2, 0x82, 0x41] = .ok [0xEF, 0xBF, 0xBD, 0x41]
    ∧ fromUtf8Lossy true [0xED, 0xA0, 0x80] = .ok [0xEF, 0xBF, 0xBD, 0xEF, 0xBF, 0xBD, 0xEF, 0xBF, 0xBD] := by
  decide

/-- one iteration of the decoder's loop accepts exactly the scalar values of Unicode Table 3-7
(`decodeHead`, defined without the width table), with the same length, and rejects the rest -/
theorem C14_lossy_step_table37 (t : Bytes) :
    (∀ n, sufStep t = .adv n → ∃ c, decodeHead t = some (c, n)) ∧
    (∀ k, sufStep t = .err k → decodeHead t = none) := sufStep_decode t

/-- **`from_utf16_in`** errs iff the units contain a lone surrogate (`text16 = none`), else it is
the UTF-8 encoding of the decoded scalars — hence valid -/
theorem C14_from_utf16 (us : List Nat) :
    (fromUtf16 us = match text16 us with | some cs => .ok (encode cs) | none => .err)
    ∧ (fromUtf16 us = .err ↔ text16 us = none)
    ∧ (∀ b, fromUtf16 us = .ok b → Valid b) :=
  ⟨fromUtf16_spec us, fromUtf16_err_iff us, fromUtf16_valid us⟩

example : text16 [0x61, 0xD83D, 0xDE00] = some ['a', '😀'] ∧ text16 [0xDC00] = none ∧ text16 [0xD800, 0x61] = none := by
  decide


/-- **Always UTF-8**: for every program over the methods of the property, every argument (any
byte index, any range bound incl. `usize::MAX`), either overflow mode, with panicking calls caught: the string is valid UTF-8 after every operation and the model never reaches a `bad`
state (no read of non-UTF-8 text, no wrapping length arithmetic). -/
theorem C14_always_valid (ovf : Bool) (ops : List SOp) :
    ∃ s, runOps ovf [] ops = some s ∧ Valid s := runOps_valid ovf ops Valid_nil

theorem C14_step_valid (ovf : Bool) (s : Bytes) (hv : Valid s) (op : SOp) :
    ∃ s', stepOp ovf s op = some s' ∧ Valid s' := stepOp_valid ovf hv op

/-- the hypotheses are satisfiable: a concrete run -/
example : runOps true [] [.fromStr ['a', 'é', '€', '😀'], .insert 1 'z', .remove 2, .truncate 5, .pop]
    = some (encode ['a', 'z']) := by decide


end Bump.Str

#print axioms Bump.Str.C14_table_rfc3629
#print axioms Bump.Str.C14_tag_cont
#print axioms Bump.Str.C14_valid_is_core
#print axioms Bump.Str.C14_from_utf8_accepts_iff_valid
#print axioms Bump.Str.C14_boundary_iff
#print axioms Bump.Str.C14_chars_encode
#print axioms Bump.Str.C14_push
#print axioms Bump.Str.C14_push_str
#print axioms Bump.Str.C14_extend_chars
#print axioms Bump.Str.C14_extend_strs
#print axioms Bump.Str.C14_from_iter
#print axioms Bump.Str.C14_clone_into_bump_str
#print axioms Bump.Str.C14_pop
#print axioms Bump.Str.C14_truncate
#print axioms Bump.Str.C14_insert
#print axioms Bump.Str.C14_remove
#print axioms Bump.Str.C14_split_off
#print axioms Bump.Str.C14_retain
#print axioms Bump.Str.C14_drain
#print axioms Bump.Str.C14_drain_bounds
#print axioms Bump.Str.C14_replace_range
#print axioms Bump.Str.C14_range_arith_checked
#print axioms Bump.Str.C14_range_end_overflow_panics
#print axioms Bump.Str.C14_range_end_unchecked_wraps
#print axioms Bump.Str.C14_lossy_valid
#print axioms Bump.Str.C14_lossy_id
#print axioms Bump.Str.C14_lossy_spec
#print axioms Bump.Str.C14_lossy_step_table37
#print axioms Bump.Str.C14_from_utf16
#print axioms Bump.Str.C14_always_valid
#print axioms Bump.Str.C14_step_valid
