import BumpVerif.Gen.FnStrFwd
import BumpVerif.Props.GenFnVec
import BumpVerif.Props.C18Cap
/-!
# The capacity-related methods of `String` as translated = the model of its byte vector

`String::{reserve, reserve_exact, shrink_to_fit, capacity, len, new_in, with_capacity_in}` are one-line forwards in the source;
their translations call the *translated* functions of `Vec`, so the equalities below are the `Vec` / `RawVec` theorems carried over
— what `Props/C18Cap.lean` (reserved capacity is honoured) and C19's refusals are stated about is, by these theorems, what the
`String` methods do.
-/
namespace Bump.V
open Bump Bump.RsM

theorem gen_string_reserve (c : Cfg) (n : Nat) (v : VS) (w : W) :
    Gen.Fn.string_reserve c n (v, w) =
      match rawReserve c v v.len n with
      | some v' => ((v', w), .ok ())
      | none => ((v, w), .panic) := gen_vec_reserve c n v w

theorem gen_string_reserve_exact (c : Cfg) (n : Nat) (v : VS) (w : W) :
    Gen.Fn.string_reserve_exact c n (v, w) =
      match reserveGen c v v.len n true with
      | .ok v' => ((v', w), .ok ())
      | .error _ => ((v, w), .panic) := gen_vec_reserve_exact c n v w

theorem gen_string_shrink_to_fit (c : Cfg) (v : VS) (w : W) (hb : c.esz * v.cap < USIZE) (hlim : c.esz * v.cap ≤ c.allocLimit) :
    Gen.Fn.string_shrink_to_fit c (v, w) =
      match shrinkToFit c v with
      | some v' => ((v', w), .ok ())
      | none => ((v, w), .panic) := gen_vec_shrink_to_fit c v w hb hlim

theorem gen_string_capacity (c : Cfg) (s : VW) : Gen.Fn.string_capacity c s = .ok (capOf c s.1) := gen_vec_capacity c s
theorem gen_string_len (c : Cfg) (s : VW) : Gen.Fn.string_len c s = .ok s.1.len := gen_vec_len c s
theorem gen_string_new_in (c : Cfg) : Gen.Fn.string_new_in c = .ok newVec := gen_vec_new_in c
theorem gen_string_with_capacity_in (c : Cfg) (n : Nat) :
    Gen.Fn.string_with_capacity_in c n = match withCapacity c n with | some v => .ok v | none => .panic :=
  gen_vec_with_capacity_in c n

/-- C18 for `String::reserve`, on the translated function: a reservation that is already covered by the capacity changes nothing
(no move) -/
theorem string_reserve_noop (c : Cfg) (n : Nat) (v : VS) (w : W) (hcap : v.cap < USIZE) (h : v.len + n ≤ capOf c v) :
    Gen.Fn.string_reserve c n (v, w) = ((v, w), .ok ()) := by
  rw [gen_string_reserve, C18.rawReserve_noop hcap h]

/-- C19 for `String::reserve`, on the translated function: `len + additional` above `usize::MAX` is refused (panic), whatever the
string holds -/
theorem string_reserve_overflow (c : Cfg) (n : Nat) (v : VS) (w : W) (hcap : v.cap < USIZE) (h : USIZE ≤ v.len + n) (hl : v.len ≤ capOf c v) :
    Gen.Fn.string_reserve c n (v, w) = ((v, w), .panic) := by
  rw [gen_string_reserve]
  have hlt := capOf_lt c v hcap
  have hw : wsub (capOf c v) v.len = capOf c v - v.len := wsub_of_le hl hlt
  rw [rawReserve_overflow (by omega) h]

#print axioms gen_string_reserve
#print axioms gen_string_with_capacity_in
#print axioms string_reserve_noop
#print axioms string_reserve_overflow

end Bump.V
