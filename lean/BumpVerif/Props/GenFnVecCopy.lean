import BumpVerif.Gen.FnVecCopy
import BumpVerif.Props.GenFnVec
import BumpVerif.Proofs.VecReserve
import BumpVerif.Proofs.VecCore
import BumpVerif.Proofs.VecExtend
import BumpVerif.Proofs.VecMore
/-!
# `Vec::{append_elements, extend_from_slice_copy_unchecked, extend_from_slice_copy}` as translated = the model

A slice outside the vector's buffer (`&[T]`, `*const [T]`) is the list of its slots; `ptr::copy_nonoverlapping` from it is
`VS.copyFrom`.  The unchecked `len + n` and the `debug_assert!(old_len + other.len() <= self.capacity())` of the source are `bad`
branches of the translation; the theorems show they are never taken after the `reserve` that precedes them (on every buffer
satisfying `BufOK`, under `CfgOK`).
-/
namespace Bump.V
open Bump Bump.RsM

theorem gen_vec_extend_from_slice_copy_unchecked (c : Cfg) (src : List (Option Elem)) (v : VS) (w : W)
    (hroom : v.len + src.length ≤ capOf c v) (hcap : capOf c v < USIZE) :
    Gen.Fn.vec_extend_from_slice_copy_unchecked c src (v, w) =
      (({ (v.copyFrom c src v.len w).1 with len := v.len + src.length }, (v.copyFrom c src v.len w).2), .ok ()) := by
  have h1 : v.len + src.length < USIZE := by omega
  simp only [Gen.Fn.vec_extend_from_slice_copy_unchecked, gen_vec_len, gen_vec_capacity, pureW, bindW, h1, if_true, hroom, decide_true,
    copy_in, gen_vec_set_len]
  rw [List.take_of_length_le (Nat.le_refl _)]

/-- what `append_elements(other)` and `extend_from_slice_copy(other)` both do: reserve `other.len()`, copy the slice behind `len`,
`len += other.len()` -/
def appendElems (c : Cfg) (v : VS) (other : List (Option Elem)) (w : W) : VS × W × Option Unit :=
  match rawReserve c v v.len other.length with
  | none => (v, w, none)
  | some a1 => ({ (a1.copyFrom c other a1.len w).1 with len := (a1.copyFrom c other a1.len w).1.len + other.length },
      (a1.copyFrom c other a1.len w).2, some ())

theorem extendFromSliceCopy_eq (c : Cfg) (v : VS) (src : List Elem) (w : W) :
    extendFromSliceCopy c v src w = appendElems c v (src.map some) w := by
  unfold extendFromSliceCopy appendElems
  rw [List.length_map]
  rfl

theorem append_eq (c : Cfg) (a b : VS) (w : W) (hbl : b.len ≤ b.slots.length) :
    append c a b w =
      match appendElems c a (b.slots.take b.len) w with
      | (a', w', some ()) => (a', { b with len := 0 }, w', some ())
      | (a', w', none) => (a', b, w', none) := by
  unfold append appendElems
  dsimp only
  rw [List.length_take, Nat.min_eq_left hbl]
  cases rawReserve c a a.len b.len <;> rfl

theorem gen_vec_extend_from_slice_copy_raw (c : Cfg) (other : List (Option Elem)) (v : VS) (w : W) (hc : CfgOK c) (hb : BufOK c v)
    (hl : v.len ≤ capOf c v) :
    Gen.Fn.vec_extend_from_slice_copy c other (v, w) = ofModel (appendElems c v other w) := by
  unfold Gen.Fn.vec_extend_from_slice_copy appendElems
  rw [gen_vec_reserve]
  cases hr : rawReserve c v v.len other.length with
  | none => rfl
  | some v1 =>
    obtain ⟨hb1, hlen, hcap, _⟩ := rawReserve_buf hc hb hl hr
    dsimp only
    rw [bindW_ok, gen_vec_extend_from_slice_copy_unchecked c other v1 w (by omega) (capOf_lt c v1 hb1.capLt), copyFrom_len]
    rfl

theorem gen_vec_extend_from_slice_copy (c : Cfg) (src : List Elem) (v : VS) (w : W) (hc : CfgOK c) (hb : BufOK c v)
    (hl : v.len ≤ capOf c v) :
    toModel (Gen.Fn.vec_extend_from_slice_copy c (src.map some) (v, w)) = extendFromSliceCopy c v src w := by
  rw [gen_vec_extend_from_slice_copy_raw c _ v w hc hb hl, toModel_ofModel, extendFromSliceCopy_eq]

/-- `append_elements(other)`: the same three steps written out in place -/
theorem gen_vec_append_elements_raw (c : Cfg) (other : List (Option Elem)) (v : VS) (w : W) (hc : CfgOK c) (hb : BufOK c v)
    (hl : v.len ≤ capOf c v) :
    Gen.Fn.vec_append_elements c other (v, w) = ofModel (appendElems c v other w) := by
  unfold Gen.Fn.vec_append_elements appendElems
  dsimp only
  rw [gen_vec_reserve]
  cases hr : rawReserve c v v.len other.length with
  | none => rfl
  | some v1 =>
    obtain ⟨hb1, hlen, hcap, _⟩ := rawReserve_buf hc hb hl hr
    have hlt := capOf_lt c v1 hb1.capLt
    have h1 : (v1.copyFrom c other v1.len w).1.len + other.length < USIZE := by rw [copyFrom_len]; omega
    rw [bindW_ok, gen_vec_len, pureW_ok]
    unfold copy_in
    rw [List.take_of_length_le (Nat.le_refl _), bindW_ok, if_pos h1]
    rfl

theorem gen_vec_append_elements (c : Cfg) (other : List (Option Elem)) (v : VS) (w : W) (hc : CfgOK c) (hb : BufOK c v)
    (hl : v.len ≤ capOf c v) :
    toModel (Gen.Fn.vec_append_elements c other (v, w)) = appendElems c v other w := by
  rw [gen_vec_append_elements_raw c other v w hc hb hl, toModel_ofModel]

/-- `Vec::append(&mut other)`: `append_elements(other.as_slice())`, then `other.set_len(0)` -/
theorem gen_vec_append (c : Cfg) (a b : VS) (w : W) (hc : CfgOK c) (hb : BufOK c a) (hl : a.len ≤ capOf c a)
    (hbl : b.len ≤ b.slots.length) :
    (match toModel (Gen.Fn.vec_append_elements c (b.slots.take b.len) (a, w)) with
     | (a', w', some ()) => (a', { b with len := 0 }, w', some ())
     | (a', w', none) => (a', b, w', none)) = append c a b w := by
  rw [gen_vec_append_elements c _ a w hc hb hl, append_eq c a b w hbl]

/-! ## `Extend<T> for Vec`: reserve the lower size hint, then `for t in iter { self.push(t) }` with the iterator owned by the frame -/

/-- the model's result of the `for` loop in the translation's shape: the iterator is handed on, or dropped by the unwinding -/
def extendOf (c : Cfg) (m : VS × It × W × Bool) : VW × Outcome It :=
  if m.2.2.2 then ((m.1, m.2.2.1), .ok m.2.1) else ((m.1, m.2.1.dropRest c m.2.2.1), .panic)

theorem it_next_remaining (c : Cfg) (w : W) (it : It) :
    match It.next c w it with
    | (_, it', some (some _)) => it'.remaining + 1 = it.remaining
    | (_, it', some none) => it'.remaining = 0
    | (_, _, none) => True := by
  cases it with
  | src s =>
    unfold It.next
    by_cases h : (s.panicAt == some s.calls) = true
    · simp [h]
    · simp only [h]
      cases hi : s.items with
      | nil => simp [It.remaining]
      | cons e r => simp [It.remaining, hi]
  | cloned l =>
    cases l with
    | nil => simp [It.next, It.remaining]
    | cons e r =>
      simp only [It.next]
      rcases cloneElem c w e with ⟨w', o⟩
      cases o <;> simp [It.remaining]
  | owned l =>
    cases l with
    | nil => simp [It.next, It.remaining]
    | cons e r => simp [It.next, It.remaining]

theorem dropRestP_exhausted (c : Cfg) (w : W) (it : It) (h : it.remaining = 0) :
    dropRestP c w it = (it.dropRest c w, false) := by
  cases it with
  | src s =>
    have : s.items = [] := by simpa [It.remaining] using h
    simp [dropRestP, It.dropRest, this, dropAll]
  | cloned l => simp [dropRestP, It.dropRest]
  | owned l =>
    have : l = [] := by simpa [It.remaining] using h
    simp [dropRestP, It.dropRest, this, dropAll]

/-- the translated loop is the model's `extendLoop` (no `bad` step), for every fuel that covers what the iterator can still yield;
and a loop that ends normally has exhausted the iterator -/
theorem extend_loop (c : Cfg) (hc : CfgOK c) (it0 : It) (u : Unit) :
    ∀ (fuel : Nat) (it : It) (v : VS) (xs : List Elem) (w : W), RepB c v xs → it.remaining < fuel →
      Gen.Fn.vec_extend.loop_1 c it0 u fuel it (v, w) = extendOf c (extendLoop c fuel v it w) ∧
      ((extendLoop c fuel v it w).2.2.2 = true → (extendLoop c fuel v it w).2.1.remaining = 0) := by
  intro fuel
  induction fuel with
  | zero => intro it v xs w _ h; exact absurd h (Nat.not_lt_zero _)
  | succ fuel ih =>
    intro it v xs w hr hlt
    unfold Gen.Fn.vec_extend.loop_1 extendLoop it_next
    have hrem := it_next_remaining c w it
    generalize It.next c w it = nx at hrem ⊢
    obtain ⟨w1, it1, _ | _ | e⟩ := nx
    · exact ⟨rfl, fun h => Bool.noConfusion h⟩
    · exact ⟨rfl, fun _ => hrem⟩
    · dsimp only at hrem ⊢
      rw [gen_vec_push_of c v e w1 hr.lenCap hr.capLt]
      rcases push_spec hc hr e w1 with ⟨v', hpush, hr'⟩ | ⟨hpush, _, _⟩
      · rw [hpush]
        exact ih it1 v' _ w1 hr' (by omega)
      · rw [hpush]
        exact ⟨rfl, fun h => Bool.noConfusion h⟩

theorem gen_vec_extend_raw (c : Cfg) (hc : CfgOK c) (it : It) (v : VS) (xs : List Elem) (w : W) (hr : RepB c v xs) :
    Gen.Fn.vec_extend c it (v, w) = ofModel (extend c v it w) := by
  unfold Gen.Fn.vec_extend
  dsimp only
  rw [gen_vec_reserve, extend_unfold, extendRef_unfold]
  cases hres : rawReserve c v v.len it.hintLo with
  | none => rfl
  | some v1 =>
    obtain ⟨hgen, hex⟩ := extend_loop c hc it () (it.remaining + 1) it v1 xs w (rawReserve_some hc hr hres).1 (Nat.lt_succ_self _)
    dsimp only
    rw [bindU_ok, hgen]
    generalize extendLoop c (it.remaining + 1) v1 it w = m at hex ⊢
    obtain ⟨v2, it2, w2, _ | _⟩ := m
    · rfl
    · -- the exhausted iterator has nothing left whose destructor could panic
      rw [show extendOf c (v2, it2, w2, true) = ((v2, w2), .ok it2) from rfl, bindW_ok]
      unfold it_drop_end
      rw [dropRestP_exhausted c w2 it2 (hex rfl)]
      rfl

theorem gen_vec_extend (c : Cfg) (hc : CfgOK c) (it : It) (v : VS) (xs : List Elem) (w : W) (hr : RepB c v xs) :
    toModel (Gen.Fn.vec_extend c it (v, w)) = extend c v it w := by
  rw [gen_vec_extend_raw c hc it v xs w hr, toModel_ofModel]

/-- the vector built (`none`: the function panicked, after dropping what it had built) and the effects -/
def builtView (r : VW × Outcome Unit) : Option VS × W :=
  match r with
  | ((v, w), .ok _) => (some v, w)
  | ((_, w), .panic) => (none, w)
  | ((_, w), .bad why) => (none, w.flag why)
  | ((_, w), _) => (none, w.flag "?")

/-- a vector under construction is extended as the function's last step; when that panics the unwinding drops the vector -/
theorem builtView_extend (c : Cfg) (m : VS × W × Option Unit) :
    builtView (bindU (ofModel m) (fun s => drop_vec c s) fun s _ => (s, .ok ())) =
      match m with
      | (v, w, some _) => (some v, w)
      | (v, w, none) => (none, (dropVec c v w).1) := by
  obtain ⟨v, w, _ | _⟩ := m <;> rfl

theorem gen_vec_from_iter_in (c : Cfg) (hc : CfgOK c) (it : It) (v0 : VS) (w : W) :
    builtView (Gen.Fn.vec_from_iter_in c it () (v0, w)) = fromIter c it w := by
  unfold Gen.Fn.vec_from_iter_in fromIter
  rw [gen_vec_new_in]
  unfold new_vec
  rw [bindU_ok, gen_vec_extend_raw c hc it newVec [] w (newVec_rep c)]
  exact builtView_extend c _

theorem gen_vec_clone (c : Cfg) (hc : CfgOK c) (v : VS) (w : W) (hl : v.len < USIZE) :
    builtView (Gen.Fn.vec_clone c (v, w)) = cloneVec c v w := by
  unfold Gen.Fn.vec_clone cloneVec
  rw [gen_vec_len, pureW_ok, gen_vec_with_capacity_in]
  cases hcap : withCapacity c v.len with
  | none => rfl
  | some n =>
    unfold new_vec
    rw [bindW_ok, gen_vec_extend_raw c hc _ n [] w (withCapacity_some hc hl hcap).1]
    exact builtView_extend c _

/-! ## two vectors: `append(&mut other)`, `split_off(at)` (the second vector is a value next to the threaded one) -/

/-- the value returned is the other vector as the call leaves it -/
theorem gen_vec_append_whole (c : Cfg) (a b : VS) (w : W) (hc : CfgOK c) (hb : BufOK c a) (hl : a.len ≤ capOf c a)
    (hbl : b.len ≤ b.slots.length) :
    (match Gen.Fn.vec_append c b (a, w) with
     | ((a', w'), .ok b') => (a', b', w', some ())
     | ((a', w'), _) => (a', b, w', none)) = append c a b w := by
  unfold Gen.Fn.vec_append
  rw [gen_vec_append_elements_raw c _ a w hc hb hl, append_eq c a b w hbl]
  rcases appendElems c a (b.slots.take b.len) w with ⟨a', w', _ | _⟩ <;> rfl

theorem gen_vec_split_off (c : Cfg) (v : VS) (at_ : Nat) (w : W) :
    (match Gen.Fn.vec_split_off c at_ (v, w) with
     | ((v', w'), .ok o) => (v', some o, w')
     | ((v', w'), .bad why) => (v', none, w'.flag why)
     | ((v', w'), _) => (v', none, w')) = splitOff c v at_ w := by
  unfold Gen.Fn.vec_split_off splitOff
  rw [gen_vec_len, pureW_ok]
  by_cases hat : at_ ≤ v.len
  · rw [if_pos (decide_eq_true hat), if_pos hat, if_neg (Nat.not_lt.mpr hat)]
    dsimp only
    rw [gen_vec_with_capacity_in]
    cases withCapacity c (v.len - at_) with
    | none => rfl
    | some o =>
      rw [pureW_ok, gen_vec_set_len, bindW_ok]
      unfold RsM.copy_out
      dsimp only
      rw [copyFrom_with_len]
      rfl
  · rw [if_neg (mt of_decide_eq_true hat), if_pos (Nat.not_le.mp hat)]

theorem gen_vec_dedup_by_key (c : Cfg) (key : Elem → Nat) (s : VW) :
    Gen.Fn.vec_dedup_by_key c key s = Gen.Fn.vec_dedup_by c (fun _ a b => some (key a == key b)) s := by
  unfold Gen.Fn.vec_dedup_by_key
  exact bindW_ok_id _

/-- `==` is equality of the elements' values -/
theorem gen_vec_dedup (c : Cfg) (s : VW) :
    Gen.Fn.vec_dedup c s = Gen.Fn.vec_dedup_by c (fun _ a b => some (a.val == b.val)) s := by
  unfold Gen.Fn.vec_dedup
  exact bindW_ok_id _

theorem gen_vec_extend_from_slice (c : Cfg) (hc : CfgOK c) (src : List Elem) (v : VS) (xs : List Elem) (w : W) (hr : RepB c v xs) :
    toModel (Gen.Fn.vec_extend_from_slice c src (v, w)) = extend c v (.cloned src) w := by
  unfold Gen.Fn.vec_extend_from_slice
  rw [bindW_ok_id]
  exact gen_vec_extend c hc _ v xs w hr

/-- `Extend<&'a T>` (for `T: Copy`) is `extend(iter.cloned())` -/
theorem gen_vec_extend_refs (c : Cfg) (hc : CfgOK c) (src : List Elem) (v : VS) (xs : List Elem) (w : W) (hr : RepB c v xs) :
    toModel (Gen.Fn.vec_extend_refs c src (v, w)) = extend c v (.cloned src) w := by
  unfold Gen.Fn.vec_extend_refs
  rw [bindW_ok_id]
  exact gen_vec_extend c hc _ v xs w hr

#print axioms gen_vec_extend_refs

/-- `io::Write::write(buf)` for `Vec<u8>` -/
theorem gen_vec_io_write (c : Cfg) (src : List Elem) (v : VS) (w : W) (hc : CfgOK c) (hb : BufOK c v) (hl : v.len ≤ capOf c v) :
    (match Gen.Fn.vec_io_write c (src.map some) (v, w) with
     | (s, .ok n) => (s.1, s.2, some n)
     | (s, _) => (s.1, s.2, none)) = ioWrite c v src w := by
  unfold Gen.Fn.vec_io_write ioWrite
  rw [gen_vec_extend_from_slice_copy_raw c _ v w hc hb hl, extendFromSliceCopy_eq, List.length_map]
  rcases appendElems c v (src.map some) w with ⟨v', w', _ | _⟩ <;> rfl

/-- `write_all(buf)`; `flush` does nothing -/
theorem gen_vec_io_write_all (c : Cfg) (src : List Elem) (v : VS) (w : W) (hc : CfgOK c) (hb : BufOK c v) (hl : v.len ≤ capOf c v) :
    toModel (Gen.Fn.vec_io_write_all c (src.map some) (v, w)) = extendFromSliceCopy c v src w := by
  unfold Gen.Fn.vec_io_write_all
  rw [bindW_ok_id]
  exact gen_vec_extend_from_slice_copy c src v w hc hb hl

theorem gen_vec_io_flush (c : Cfg) (s : VW) : Gen.Fn.vec_io_flush c s = (s, .ok ()) := rfl

#print axioms gen_vec_extend_from_slice_copy
#print axioms gen_vec_extend_from_slice
#print axioms gen_vec_dedup_by_key
#print axioms gen_vec_dedup
#print axioms gen_vec_append_whole
#print axioms gen_vec_split_off
#print axioms gen_vec_io_write
#print axioms gen_vec_io_write_all
#print axioms gen_vec_extend
#print axioms gen_vec_from_iter_in
#print axioms gen_vec_clone
#print axioms gen_vec_extend_from_slice_copy_unchecked
#print axioms gen_vec_append_elements
#print axioms gen_vec_append

end Bump.V
