import BumpVerif.Props.GenFnFooter
import BumpVerif.Gen.FnReset
/-! # The translated `Bump::reset` of `src/lib.rs` equals the hand-written model

The source frees the older chunks *before* its `debug_assert!` on the footer's alignment; the model checks first.
Where an assertion fails both are `bad` (which the property theorems show unreachable) and the states are not
compared (`simB`); everywhere else state and outcome are equal. -/
namespace Bump
open Rs Gen

theorem gen_reset (E : Nat) (s : St) (hM : P2 s.a.M) (hne : HeadNotStatic E s.a)
    (hf : ∀ h ∈ s.a.chunks.head?, h.footer < USIZE) :
    simB (Gen.Fn.reset E s.a.M s) (reset s) := by
  unfold Gen.Fn.reset reset
  cases hc : s.a.chunks with
  | nil =>
    right
    simp [Gen.Fn.is_empty, Arena.cur, hc, pureO, bindO]
  | cons c rest =>
    have hcf : c.footer ≠ E := hne c (by simp [hc])
    have hfu : c.footer < USIZE := hf c (by simp [hc])
    have hcur : s.a.cur E = c := by simp [Arena.cur, hc]
    simp only [Gen.Fn.is_empty, hcur, emptyChunk_footer, pureO, bindO, beq_iff_eq, hcf, if_false,
      chunk_prev_replace, hc, beq_self_eq_true, Bool.and_self, if_true, dealloc_chunk_list,
      gen_is_pointer_aligned_to _ _ hM hfu]
    by_cases ha : c.footer % s.a.M = 0
    case neg => left; simp [ha, Outcome.isBad]
    simp only [ha, beq_self_eq_true, if_true, ne_eq, not_true_eq_false, if_false]
    simp only [Gen.Fn.set_ptr, Gen.Fn.is_empty, emptyChunk_footer, pureO, bindO, beq_iff_eq, hcf, if_false, chunk_ptr_set,
      beq_self_eq_true, if_true]
    by_cases hs : FOOTER_SIZE ≤ c.size
    case neg =>
      left
      have : c.size < FOOTER_SIZE := by omega
      simp [hs, this, Outcome.isBad]
    have hs' : ¬ c.size < FOOTER_SIZE := by omega
    simp only [hs, hs', if_true, if_false, chunk_ab_set, beq_self_eq_true, Chunk.footer, chunk_prev, prevIn, Arena.cur,
      List.headD_cons, List.headD_nil, emptyChunk]
    right
    simp [Chunk.footer]

#print axioms gen_reset
end Bump
