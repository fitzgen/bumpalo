import BumpVerif.Proofs.BoxOps
import BumpVerif.Gen.BoxImpls
/-! # C17 — `boxed::Box` owns its value like std's `Box`, without owning memory

Theorems about the ownership machine of `Model/Box.lean` (the functions of `src/boxed.rs` written
as `ManuallyDrop` / `ptr::read` / `drop_in_place` step sequences), for **all** programs (lists of
operations over a table of variables), all values, all panic positions of a destructor and all
downcast targets.  The Box parts of C15 (dropped exactly once; `into_raw`, `leak`, `into_inner`
never double-drop) and C16 (a panicking destructor inside a boxed-slice drop: no double drop) are
the theorems `never_dropped_twice`, `transfers_run_no_destructor`, `slice_drop_with_panicking_destructor`.

The delegation clause (comparison / hash / format / iterate / poll / `AsRef` / `Borrow` impls return
what the pointee's return): in the model they do by definition (`delegation_is_definitional`); that
the *source* has that form is re-read on every run by `tools/extract_box.py`, which regenerates
`Gen/BoxImpls.lean` — one row per method of those impls, with whether its body is literally a
forward to the pointee — and `delegating_impls_forward` below is the obligation that every row
says so.  The side-by-side run against `std::boxed::Box` samples the results themselves.  That the
model's step sequences are the ones the source executes is the correspondence run's job.
-/
namespace Bump.C17
open Bump.Bx

def Reachable (z : Bool) (w : W) : Prop := ∃ ns prog, w = run z prog (W.init ns)

/-- The ownership invariant holds after every program: no id occurs twice among the ids reachable
through a variable, the drop log and the moved-out log; these are exactly the ids created. -/
theorem own_all_programs (z : Bool) (ns : Nat) (prog : List (Env × Op)) : Own (run z prog (W.init ns)) :=
  run_own z prog _ (own_init ns)

theorem Reachable.own {z : Bool} {w : W} (h : Reachable z w) : Own w := by
  obtain ⟨ns, prog, rfl⟩ := h
  exact own_all_programs z ns prog

/-- owned / escaped (`into_raw`) / leaked / dropped / moved-out (`into_inner`) are pairwise
disjoint and duplicate-free, and together are exactly the values ever created (conservation). -/
theorem five_classes (z : Bool) (w : W) (h : Reachable z w) :
    (w.owned ++ w.escaped ++ w.leaked ++ w.drops ++ w.moved).Nodup ∧
    w.created.Perm (w.owned ++ w.escaped ++ w.leaked ++ w.drops ++ w.moved) :=
  own_classes w h.own

/-- In every reachable state: no value has had its destructor run twice, none was both dropped and
moved out, and nothing dropped or moved out is reachable through any variable (owned, raw or leaked). -/
theorem never_dropped_twice (z : Bool) (w : W) (h : Reachable z w) (id : Nat) :
    w.drops.count id + w.moved.count id ≤ 1 ∧ (id ∈ w.drops ∨ id ∈ w.moved → id ∉ w.live) := by
  have hc := own_count_le h.own id
  refine ⟨by omega, ?_⟩
  intro hm hl
  have h1 := List.count_pos_iff.mpr hl
  rcases hm with hm | hm <;> (have h2 := List.count_pos_iff.mpr hm; omega)

/-- what sits behind a raw pointer from `into_raw` or a leaked reference has not been dropped -/
theorem escaped_and_leaked_not_dropped (z : Bool) (w : W) (h : Reachable z w) (id : Nat)
    (hm : id ∈ w.escaped ∨ id ∈ w.leaked) : id ∉ w.drops := by
  have hn := (five_classes z w h).1
  intro hd
  have hc := (List.nodup_iff_count.mp hn) id
  simp only [List.count_append] at hc
  have h2 := List.count_pos_iff.mpr hd
  rcases hm with hm | hm <;> (have h1 := List.count_pos_iff.mpr hm; omega)

/-- `box_drop`: in any reachable state, dropping a `Box<T>` empties the variable, runs the value's
destructor exactly once (one new `drop id` event; the id then occurs exactly once in the whole
log), reads nothing out, and does not touch the arena (accounting unchanged, no allocator event). -/
theorem box_drop (z : Bool) (env : Env) (w : W) (hr : Reachable z w) (s tag : Nat) (c : Cell) (pa : Option Nat)
    (h : w.slots[s]? = some (.box tag c)) :
    let w' := step z env (.drop s pa) w
    w'.slots = w.slots.set s .empty ∧ w'.drops = w.drops ++ [c.id] ∧ w'.moved = w.moved ∧
    w'.drops.count c.id = 1 ∧ w'.acct = w.acct ∧ evtOf env (effOf z (.drop s pa) w).1 = 0 := by
  obtain ⟨hs, he, _⟩ := Bx.box_drop z env w s tag c pa h
  exact ⟨hs.slots, hs.drops, by simpa using hs.moved,
    (step_own z env _ w hr.own).drops_count (hs.drops ▸ List.mem_append_right _ List.mem_cons_self), hs.acct, he⟩

/-- Dropping a boxed slice (or boxed array) drops each element exactly once, front to back, whether or
not the destructor of some element `k` panics: the remaining elements are still dropped, none twice
(C16, Box part); the call unwinds iff `k` is an element index; the arena is not touched. -/
theorem slice_drop_with_panicking_destructor (z : Bool) (env : Env) (w : W) (hr : Reachable z w) (s : Nat)
    (cs : List Cell) (cap : Option Nat) (pa : Option Nat) (h : w.slots[s]? = some (.slice cs cap)) :
    let w' := step z env (.drop s pa) w
    w'.slots = w.slots.set s .empty ∧ w'.drops = w.drops ++ cs.map (·.id) ∧ w'.moved = w.moved ∧
    (∀ c ∈ cs, w'.drops.count c.id = 1) ∧ w'.acct = w.acct ∧
    (effOf z (.drop s pa) w).2 = (match pa with | some k => if k < cs.length then "panic" else "ok" | none => "ok") := by
  have he := effOf_drop z pa h rfl nofun
  have hs : OnlySlot w (step z env (.drop s pa) w) s .empty _ [] := .of_effOf he
  exact ⟨hs.slots, hs.drops, by simpa using hs.moved,
    fun c hcm => (step_own z env _ w hr.own).drops_count (hs.drops ▸ List.mem_append_right _ (List.mem_map_of_mem hcm)),
    hs.acct, congrArg Prod.snd he⟩

/-- the same for a boxed array -/
theorem arr_drop (z : Bool) (env : Env) (w : W) (s : Nat) (cs : List Cell) (cap : Option Nat) (pa : Option Nat)
    (h : w.slots[s]? = some (.arr cs cap)) :
    let w' := step z env (.drop s pa) w
    w'.slots = w.slots.set s .empty ∧ w'.drops = w.drops ++ cs.map (·.id) ∧ w'.moved = w.moved ∧ w'.acct = w.acct := by
  have hs : OnlySlot w (step z env (.drop s pa) w) s .empty _ [] := .of_effOf (effOf_drop z pa h rfl nofun)
  exact ⟨hs.slots, hs.drops, by simpa using hs.moved, hs.acct⟩

/-- `into_inner` moves the value out (one `moved` event, result = the value), `into_raw` / `leak` hand it
to a raw pointer / a reference, `from_raw` takes it back: in all of them no destructor runs, the value
(id and contents) is unchanged, the arena is untouched. -/
theorem transfers_run_no_destructor (z : Bool) (env : Env) (w : W) (s tag : Nat) (c : Cell) :
    (w.slots[s]? = some (.box tag c) →
      OnlySlot w (step z env (.intoInner s) w) s .empty [] [c.id] ∧ (effOf z (.intoInner s) w).2 = "ok " ++ showCells z [c] ∧
      OnlySlot w (step z env (.intoRaw s) w) s (.raw tag c) [] [] ∧
      OnlySlot w (step z env (.leak s) w) s (.leaked tag c) [] [] ∧
      OnlySlot w (step z env (.toAny s) w) s (.any tag c) [] []) ∧
    (w.slots[s]? = some (.raw tag c) ∨ w.slots[s]? = some (.leaked tag c) →
      OnlySlot w (step z env (.fromRaw s) w) s (.box tag c) [] []) :=
  ⟨fun h => ⟨.of_effOf (effOf_intoInner z h), congrArg Prod.snd (effOf_intoInner z h), .of_effOf (effOf_intoRaw_box z h),
     .of_effOf (effOf_leak_box z h), .of_effOf (effOf_toAny z h)⟩,
   fun h => .of_effOf (effOf_fromRaw_box z h)⟩

/-- the same for boxed slices: the element sequence (order, ids, contents) is handed over unchanged -/
theorem slice_transfers_run_no_destructor (z : Bool) (env : Env) (w : W) (s : Nat) (cs : List Cell) (cap : Option Nat) :
    (w.slots[s]? = some (.slice cs cap) →
      OnlySlot w (step z env (.intoRaw s) w) s (.rawSlice cs cap) [] [] ∧
      OnlySlot w (step z env (.leak s) w) s (.leakedSlice cs cap) [] []) ∧
    (w.slots[s]? = some (.rawSlice cs cap) ∨ w.slots[s]? = some (.leakedSlice cs cap) →
      OnlySlot w (step z env (.fromRaw s) w) s (.slice cs cap) [] []) :=
  ⟨fun h => ⟨.of_effOf (effOf_intoRaw_slice z h), .of_effOf (effOf_leak_slice z h)⟩,
   fun h => .of_effOf (effOf_fromRaw_slice z h)⟩

/-- `from_raw(into_raw(b))` is `b` -/
theorem raw_round_trip (z : Bool) (e1 e2 : Env) (w : W) (s tag : Nat) (c : Cell)
    (h : w.slots[s]? = some (.box tag c)) (hs : s < w.slots.length) :
    OnlySlot w (step z e2 (.fromRaw s) (step z e1 (.intoRaw s) w)) s (.box tag c) [] [] := by
  have h1 : OnlySlot w (step z e1 (.intoRaw s) w) s (.raw tag c) [] [] := .of_effOf (effOf_intoRaw_box z h)
  have hget : (step z e1 (.intoRaw s) w).slots[s]? = some (.raw tag c) := by
    rw [h1.slots, List.getElem?_set_self hs]
  exact h1.trans (.of_effOf (effOf_fromRaw_box z (.inl hget)))

/-- `pin_in` / `From<Box> for Pin<Box>` / `Pin::into_inner`: the value is handed over, nothing dropped -/
theorem pinning (z : Bool) (env : Env) (w : W) (s : Nat) (c : Cell) (x : Nat) :
    (w.slots[s]? = some (.box 0 c) → OnlySlot w (step z env (.intoPin s) w) s (.pin c) [] []) ∧
    (w.slots[s]? = some (.pin c) → OnlySlot w (step z env (.unpin s) w) s (.box 0 c) [] []) ∧
    (w.slots[s]? = some .empty →
      (step z env (.pin s x) w).slots = w.slots.set s (.pin ⟨w.nextId, x⟩) ∧ (step z env (.pin s x) w).drops = w.drops ∧
      (step z env (.pin s x) w).moved = w.moved) :=
  ⟨fun h => .of_effOf (effOf_intoPin z h), fun h => .of_effOf (effOf_unpin z h), fun h => by
    have := step_create z env (op := .pin s x) rfl h
    exact ⟨this.1, this.2.1, this.2.2.1⟩⟩

/-- `downcast::<T>`: for every target `t`, `Ok` carrying the same value when the concrete type's tag
is `t`, otherwise `Err` carrying the same box back; never a drop, never a copy. -/
theorem downcast (z : Bool) (env : Env) (w : W) (s tag t : Nat) (c : Cell) (h : w.slots[s]? = some (.any tag c)) :
    OnlySlot w (step z env (.downcast s t) w) s (if tag = t then .box t c else .any tag c) [] [] ∧
    (effOf z (.downcast s t) w).2 = (if tag = t then "Ok" else "Err") :=
  ⟨.of_effOf (effOf_downcast z t h), congrArg Prod.snd (effOf_downcast z t h)⟩

/-- boxed array ⇄ boxed slice ⇄ arena `Vec`: the element sequence (order, ids, contents) is preserved,
no destructor runs, nothing is read out; `TryFrom` with the wrong length gives the same boxed slice back. -/
theorem conversions_preserve_sequence (z : Bool) (env : Env) (w : W) (s : Nat) (cs : List Cell) :
    (∀ cap, w.slots[s]? = some (.arr cs cap) → OnlySlot w (step z env (.arrToSlice s) w) s (.slice cs cap) [] []) ∧
    (∀ cap n, w.slots[s]? = some (.slice cs cap) → n ≤ 4 →
      OnlySlot w (step z env (.sliceToArr s n) w) s (if cs.length = n then .arr cs cap else .slice cs cap) [] [] ∧
      (effOf z (.sliceToArr s n) w).2 = (if cs.length = n then "Ok" else "Err")) ∧
    (∀ cap, w.slots[s]? = some (.vec cs cap) →
      OnlySlotV w (step z env (.intoBoxedSlice s) w) s (.slice cs (some cap)) [] [] ∧
      OnlySlotV w (step z env (.fromVec s) w) s (.slice cs (some cap)) [] []) ∧
    (∀ cap, w.slots[s]? = some (.slice cs cap) →
      OnlySlot w (step false env (.sliceToVec s) w) s (.vec cs cs.length) [] []) :=
  ⟨fun _ h => .of_effOf (effOf_arrToSlice z h),
   fun _ _ h hn => ⟨.of_effOf (effOf_sliceToArr z h hn), congrArg Prod.snd (effOf_sliceToArr z h hn)⟩,
   fun _ h => ⟨.of_effOf (effOf_intoBoxedSlice z h).1, .of_effOf (effOf_intoBoxedSlice z h).2⟩,
   fun _ h => .of_effOf (effOf_sliceToVec false h)⟩

/-- `Box::from_iter_in`: the items in iteration order, each with a fresh id, nothing dropped -/
theorem from_iter_in_order (z : Bool) (env : Env) (w : W) (s : Nat) (xs : List Nat) (h : w.slots[s]? = some .empty) :
    let w' := step z env (.fromIter s xs) w
    w'.slots = w.slots.set s (.slice (mkCells w.nextId xs) none) ∧ (mkCells w.nextId xs).map (·.val) = xs ∧
    (mkCells w.nextId xs).map (·.id) = List.range' w.nextId xs.length ∧ w'.drops = w.drops ∧ w'.moved = w.moved := by
  have he : effOf z (.fromIter s xs) w = create w s (.slice (mkCells w.nextId xs) none) xs.length {} := by
    unfold effOf
    simp only [fromIterIn_eq]
  have := step_create z env he h
  exact ⟨this.1, mkCells_vals _ _, mkCells_ids _ _, this.2.1, this.2.2.1⟩

/-- `Box` never releases (or acquires) arena memory: every operation other than a constructor
(`Bump::alloc`), the `Vec` methods `into_boxed_slice` / `From<Vec>` and dropping an arena `Vec` (RawVec's dealloc) leaves `allocated_bytes`, the chunk
count and the bytes in use unchanged and causes no allocator event. -/
theorem arena_untouched (z : Bool) (env : Env) (op : Op) (w : W) (h1 : op.entersArena = false)
    (h2 : ∀ s pa, op = .drop s pa → ∀ cs cap, w.slots[s]? ≠ some (.vec cs cap)) :
    (step z env op w).acct = w.acct ∧ evtOf env (effOf z op w).1 = 0 := by
  have ha : (effOf z op w).1.alloc = false := by
    cases ha : (effOf z op w).1.alloc with
    | false => rfl
    | true =>
      rcases alloc_only_in_arena_calls z op w ha with h | ⟨s, pa, cs, cap, rfl, hs⟩
      · exact absurd (h1.symm.trans h) Bool.false_ne_true
      · exact absurd hs (h2 s pa rfl cs cap)
  exact ⟨applyEff_acct env w ha, by unfold evtOf; rw [ha]; rfl⟩

/-- destructors run only inside `drop`; values are read out (`ptr::read`) only by `into_inner` -/
theorem only_drop_drops (z : Bool) (env : Env) (op : Op) (w : W) :
    ((∀ s pa, op ≠ .drop s pa) → (step z env op w).drops = w.drops) ∧
    ((∀ s, op ≠ .intoInner s) → (step z env op w).moved = w.moved) :=
  ⟨(effOf_shape z op w).drops env, (effOf_shape z op w).moved env⟩

/-- at the end of the program the remaining owners are dropped; what escaped through `into_raw` or was
leaked is not: its destructor never runs -/
theorem end_drops_owned_only (w : W) : endDrops w = w.owned := rfl

/-- The delegating impls (`PartialEq`, `PartialOrd`, `Ord`, `Hash`, `Debug`, `Display`, `Iterator`,
`Future`, `AsRef`, `Borrow`) are *defined* in the model as the pointee's answer — this is a
definition, not a theorem about the crate; its assurance is the differential run against std
(sampled, not proved). -/
theorem delegation_is_definitional (z : Bool) (w : W) (a b : Nat) (p q : Cell)
    (ha : w.slots[a]? = some (.box 0 p)) (hb : w.slots[b]? = some (.box 0 q)) :
    (effOf z (.cmp a b) w).2 = cmpText (cmpList [p.val] [q.val]) := by
  simp [effOf, ha, hb]

/-- **The source delegates.** Every method of every impl through which a `Box` must behave as its
pointee (39 methods of 17 trait impls, regenerated from `src/boxed.rs` on every run) is literally a
forward to the pointee: same trait, same method, every parameter passed through unchanged and in
order, result returned as is.  A `Box` therefore compares / hashes / formats / iterates / polls
exactly as `**self` does, whatever the pointee's impls are. -/
theorem delegating_impls_forward : ∀ e ∈ Gen.boxImpls, e.forwards = true := by decide

/-- the table is the one the property needs: all seventeen impls are present with their methods -/
theorem delegating_impls_complete : Gen.boxImplCount = 39 ∧ Gen.boxImpls.length = Gen.boxImplCount ∧
    Gen.boxImplForwarding = Gen.boxImplCount := by decide

/-- the hypotheses above are satisfiable: a one-variable program reaching a `Box` -/
example : (step false ⟨⟨448, 1, 16⟩, 1⟩ (.new 0 5 0) (W.init 1)).slots[0]? = some (.box 0 ⟨1, 5⟩) := by decide
example : Reachable false (step false ⟨⟨448, 1, 16⟩, 1⟩ (.new 0 5 0) (W.init 1)) := ⟨1, [(⟨⟨448, 1, 16⟩, 1⟩, .new 0 5 0)], rfl⟩

end Bump.C17

#print axioms Bump.C17.own_all_programs
#print axioms Bump.C17.five_classes
#print axioms Bump.C17.never_dropped_twice
#print axioms Bump.C17.escaped_and_leaked_not_dropped
#print axioms Bump.C17.box_drop
#print axioms Bump.C17.slice_drop_with_panicking_destructor
#print axioms Bump.C17.arr_drop
#print axioms Bump.C17.transfers_run_no_destructor
#print axioms Bump.C17.slice_transfers_run_no_destructor
#print axioms Bump.C17.raw_round_trip
#print axioms Bump.C17.pinning
#print axioms Bump.C17.downcast
#print axioms Bump.C17.conversions_preserve_sequence
#print axioms Bump.C17.from_iter_in_order
#print axioms Bump.C17.arena_untouched
#print axioms Bump.C17.only_drop_drops
#print axioms Bump.C17.end_drops_owned_only
#print axioms Bump.C17.delegation_is_definitional
#print axioms Bump.C17.delegating_impls_forward
#print axioms Bump.C17.delegating_impls_complete
