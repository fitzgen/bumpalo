import BumpVerif.Gen.FnVecDrain
import BumpVerif.Props.GenFnVec
import BumpVerif.Proofs.VecDrain
/-!
# `Vec::drain`, `Drain::{next, next_back, drop}` as translated = the model's `drainNew`, `takeFront`/`takeBack` steps, `Drain.drop`

`Drain`'s fields `tail_start`, `tail_len` and `iter` (a `slice::Iter`, seen as the slot range `(lo, hi)` it still has to
yield; std's iterator itself is the primitive `RsM.slice_iter_next(_back)`) are in/out parameters of the translated
methods; `self.vec.as_mut()` is the threaded vector.  `self.for_each(drop)` in the destructor is a loop that calls the
translated `next`.
-/
namespace Bump.V
open Bump Rs RsV RsM

theorem succU_eq (c : Cfg) (n : Nat) : succU c n = checkedAdd n 1 := rfl

theorem gen_vec_drain_k2 (c : Cfg) (rg : Bd × Bd) (r jv st en : Nat) (v : VS) (w : W) :
    Gen.Fn.vec_drain.k_2 c rg r v.len jv st en (v, w) =
      if st ≤ en ∧ en ≤ v.len then ((({ v with len := st } : VS), w), .ok ⟨en, v.len - en, st, en⟩) else ((v, w), .panic) := by
  unfold Gen.Fn.vec_drain.k_2
  by_cases h1 : st ≤ en
  · by_cases h2 : en ≤ v.len
    · rw [if_pos (decide_eq_true h1), if_pos (decide_eq_true h2), if_pos ⟨h1, h2⟩, gen_vec_set_len, bindW_ok, if_pos h1, if_pos h2]
      dsimp only
      rw [Nat.add_sub_cancel' h1]
    · rw [if_pos (decide_eq_true h1), if_neg (mt of_decide_eq_true h2), if_neg fun h => h2 h.2]
  · rw [if_neg (mt of_decide_eq_true h1), if_neg fun h => h1 h.1]

/-- the end bound: `k_1` evaluates it as the model's `rangeEnd` -/
theorem gen_vec_drain_k1 (c : Cfg) (sb eb : Bd) (r jv : Nat) (v : VS) (w : W) :
    Gen.Fn.vec_drain.k_1 c (sb, eb) r v.len jv (v, w) =
      match rangeEnd c v.len eb with
      | some en => Gen.Fn.vec_drain.k_2 c (sb, eb) r v.len jv jv en (v, w)
      | none => ((v, w), .panic) := by
  unfold Gen.Fn.vec_drain.k_1
  cases eb with
  | inc m => show (match checkedAdd m 1 with | some x => _ | none => _) = match checkedAdd m 1 with | some en => _ | none => _
             cases checkedAdd m 1 <;> rfl
  | exc m => rfl
  | unb => rfl

theorem gen_vec_drain (c : Cfg) (v : VS) (sb eb : Bd) (w : W) :
    Gen.Fn.vec_drain c (sb, eb) (v, w) =
      match drainNew c v sb eb with
      | some (v', d) => ((v', w), .ok d)
      | none => ((v, w), .panic) := by
  have key : ∀ st, Gen.Fn.vec_drain.k_1 c (sb, eb) v.len v.len st (v, w) =
      match drainNew c v (.inc st) eb with
      | some (v', d) => ((v', w), .ok d)
      | none => ((v, w), .panic) := by
    intro st
    rw [gen_vec_drain_k1]
    unfold drainNew rangeStart
    cases rangeEnd c v.len eb with
    | none => rfl
    | some en =>
      dsimp only
      rw [gen_vec_drain_k2]
      split <;> rfl
  unfold Gen.Fn.vec_drain
  rw [gen_vec_len, pureW_ok]
  cases sb with
  | inc n => exact key n
  | exc n =>
    show (match checkedAdd n 1 with | some x => _ | none => _) = _
    unfold drainNew rangeStart
    dsimp only [succU_eq]
    cases checkedAdd n 1 with
    | none => cases rangeEnd c v.len eb <;> rfl
    | some x => exact key x
  | unb => exact key 0

/-- one `Drain::next`: the front slot of the remaining range is read out (no event: the caller of the *crate* gets
`moveOut`, the destructor's `for_each(drop)` does not) -/
theorem gen_drain_next (c : Cfg) (ts tl lo hi : Nat) (v : VS) (w : W) :
    Gen.Fn.drain_next c ts tl (lo, hi) (v, w) =
      if lo < hi then
        match v.read lo with
        | none => ((v, w), .bad "next: read of an uninitialised slot")
        | some e => ((v, w), .ok (some e, ts, tl, (lo + 1, hi)))
      else ((v, w), .ok (none, ts, tl, (lo, hi))) := by
  unfold Gen.Fn.drain_next RsM.slice_iter_next
  dsimp only
  by_cases h : lo < hi
  · rw [if_pos h, if_pos h]; rfl
  · rw [if_neg h, if_neg h]

theorem gen_drain_next_back (c : Cfg) (ts tl lo hi : Nat) (v : VS) (w : W) :
    Gen.Fn.drain_next_back c ts tl (lo, hi) (v, w) =
      if lo < hi then
        match v.read (hi - 1) with
        | none => ((v, w), .bad "next_back: read of an uninitialised slot")
        | some e => ((v, w), .ok (some e, ts, tl, (lo, hi - 1)))
      else ((v, w), .ok (none, ts, tl, (lo, hi))) := by
  unfold Gen.Fn.drain_next_back RsM.slice_iter_next_back
  dsimp only
  by_cases h : lo < hi
  · rw [if_pos h, if_pos h]; rfl
  · rw [if_neg h, if_neg h]

/-- the model's `takeFront` is `k` calls of the translated `next`, each followed by the hand-over event -/
def genTakeFront (c : Cfg) (v : VS) : Nat → Drain → W → Drain × W × List Elem
  | 0, d, w => (d, w, [])
  | k + 1, d, w =>
    match Gen.Fn.drain_next c d.tailStart d.tailLen (d.lo, d.hi) (v, w) with
    | (_, .ok (some e, _, _, it)) =>
      let r := genTakeFront c v k { d with lo := it.1, hi := it.2 } (w.moved e)
      (r.1, r.2.1, e :: r.2.2)
    | (_, .ok (none, _, _, _)) => (d, w, [])
    | (_, _) => (d, w.flag "drain read an uninitialised slot", [])

theorem takeFront_eq_gen (c : Cfg) (v : VS) : ∀ (k : Nat) (d : Drain) (w : W), Drain.takeFront v k d w = genTakeFront c v k d w := by
  intro k
  induction k with
  | zero => intro d w; rfl
  | succ k ih =>
    intro d w
    unfold Drain.takeFront genTakeFront
    rw [gen_drain_next]
    by_cases h : d.lo < d.hi
    · rw [if_pos h, if_pos h]
      cases v.read d.lo with
      | none => rfl
      | some e => dsimp only; rw [ih]
    · rw [if_neg h, if_neg h]

def genTakeBack (c : Cfg) (v : VS) : Nat → Drain → W → Drain × W × List Elem
  | 0, d, w => (d, w, [])
  | k + 1, d, w =>
    match Gen.Fn.drain_next_back c d.tailStart d.tailLen (d.lo, d.hi) (v, w) with
    | (_, .ok (some e, _, _, it)) =>
      let r := genTakeBack c v k { d with lo := it.1, hi := it.2 } (w.moved e)
      (r.1, r.2.1, e :: r.2.2)
    | (_, .ok (none, _, _, _)) => (d, w, [])
    | (_, _) => (d, w.flag "drain read an uninitialised slot", [])

theorem takeBack_eq_gen (c : Cfg) (v : VS) : ∀ (k : Nat) (d : Drain) (w : W), Drain.takeBack v k d w = genTakeBack c v k d w := by
  intro k
  induction k with
  | zero => intro d w; rfl
  | succ k ih =>
    intro d w
    unfold Drain.takeBack genTakeBack
    rw [gen_drain_next_back]
    by_cases h : d.lo < d.hi
    · rw [if_pos h, if_pos h]
      cases v.read (d.hi - 1) with
      | none => rfl
      | some e => dsimp only; rw [ih]
    · rw [if_neg h, if_neg h]

/-- `ok` = the destructor returned, `panic` = it unwound (`true`) -/
def dropView {α : Type} : VW × Outcome α → VS × W × Bool
  | (s, .ok _) => (s.1, s.2, false)
  | (s, .panic) => (s.1, s.2, true)
  | (s, .bad why) => (s.1, s.2.flag why, false)
  | (s, _) => (s.1, s.2.flag "unexpected", false)

/-- `self.for_each(drop)` over the slot range `[lo, hi)` of a represented vector, for any fuel loop `loop` whose step is "read the
front slot, drop it, go on" and which ends with `fin hi` on the empty range: it drops exactly the model's `dropEach` of the range,
and stops where that stops.  (`Drain::drop` and `IntoIter::drop` are the two instances.) -/
theorem for_each_drop_loop {σ : Type} (c : Cfg) (xs : List Elem) (rest : List (Option Elem)) (l cp : Nat)
    (loop : Nat → Nat → Nat → VW → VW × Outcome σ) (fin : Nat → σ)
    (hstep : ∀ F lo hi s e, lo < hi → s.1.read lo = some e →
      loop (F + 1) lo hi s = bindW (RsM.drop_local c e s) fun s _ => loop F (lo + 1) hi s)
    (hend : ∀ F hi s, loop (F + 1) hi hi s = (s, .ok (fin hi))) :
    ∀ (n lo F : Nat) (w : W), lo + n ≤ xs.length → n < F →
      loop F lo (lo + n) (⟨xs.map some ++ rest, l, cp⟩, w) =
        match (dropEach c ((xs.drop lo).take n) w).2 with
        | some _ => ((⟨xs.map some ++ rest, l, cp⟩, (dropEach c ((xs.drop lo).take n) w).1), .panic)
        | none => ((⟨xs.map some ++ rest, l, cp⟩, (dropEach c ((xs.drop lo).take n) w).1), .ok (fin (lo + n))) := by
  intro n
  induction n with
  | zero =>
    intro lo F w _ hF
    obtain ⟨F, rfl⟩ := Nat.exists_eq_succ_of_ne_zero (Nat.ne_of_gt hF)
    exact hend F lo _
  | succ n ih =>
    intro lo F w hhi hF
    obtain ⟨F, rfl⟩ := Nat.exists_eq_succ_of_ne_zero (Nat.ne_of_gt (Nat.zero_lt_of_lt hF))
    have hlx : lo < xs.length := Nat.lt_of_lt_of_le (Nat.lt_add_of_pos_right (Nat.succ_pos n)) hhi
    have e : lo + (n + 1) = lo + 1 + n := Nat.add_right_comm lo n 1
    rw [hstep F lo _ _ _ (Nat.lt_add_of_pos_right (Nat.succ_pos n)) (read_map_some xs rest lo hlx l cp),
      ← List.getElem_cons_drop hlx, List.take_succ_cons, dropEach_cons, e]
    unfold RsM.drop_local
    dsimp only
    cases (dropElem c w xs[lo]).2 with
    | true => rfl
    | false => exact ih (lo + 1) F (dropElem c w xs[lo]).1 (e ▸ hhi) (Nat.lt_of_succ_lt_succ hF)

theorem gen_drain_drop_loop (c : Cfg) (xs : List Elem) (rest : List (Option Elem)) (l cp ts tl : Nat) :
    ∀ (n lo F : Nat) (w : W), lo + n ≤ xs.length → n < F →
      Gen.Fn.drain_drop.loop_1 c F ts tl (lo, lo + n) (⟨xs.map some ++ rest, l, cp⟩, w) =
        match (dropEach c ((xs.drop lo).take n) w).2 with
        | some _ => ((⟨xs.map some ++ rest, l, cp⟩, (dropEach c ((xs.drop lo).take n) w).1), .panic)
        | none => ((⟨xs.map some ++ rest, l, cp⟩, (dropEach c ((xs.drop lo).take n) w).1), .ok (ts, tl, (lo + n, lo + n))) :=
  for_each_drop_loop c xs rest l cp (fun F lo hi s => Gen.Fn.drain_drop.loop_1 c F ts tl (lo, hi) s) (fun hi => (ts, tl, (hi, hi)))
    (fun F lo hi s e hlt hr => by
      obtain ⟨v, w⟩ := s
      show Gen.Fn.drain_drop.loop_1 c (F + 1) ts tl (lo, hi) (v, w) = _
      rw [Gen.Fn.drain_drop.loop_1, gen_drain_next, if_pos hlt, (hr : v.read lo = some e)]
      rfl)
    (fun F hi s => by
      obtain ⟨v, w⟩ := s
      show Gen.Fn.drain_drop.loop_1 c (F + 1) ts tl (hi, hi) (v, w) = _
      rw [Gen.Fn.drain_drop.loop_1, gen_drain_next, if_neg (Nat.lt_irrefl hi)]
      rfl)

theorem gen_drain_drop_k2 (c : Cfg) (ts tl : Nat) (it : Nat × Nat) (r1 : Nat × Nat × (Nat × Nat)) (ts2 tl2 : Nat) (it2 : Nat × Nat)
    (r2 start tail : Nat) (s : VW) (h : start + tl2 < USIZE) :
    Gen.Fn.drain_drop.k_2 c ts tl it r1 ts2 tl2 it2 r2 start tail s = (({ s.1 with len := start + tl2 }, s.2), .ok ((), ts2, tl2, it2)) := by
  unfold Gen.Fn.drain_drop.k_2
  exact if_pos h

theorem gen_drain_drop (c : Cfg) (xs : List Elem) (rest : List (Option Elem)) (l cp : Nat) (d : Drain) (w : W)
    (hhi : d.hi ≤ xs.length) (hlo : d.lo ≤ d.hi) (hhiU : d.hi < USIZE) (hl : l + d.tailLen < USIZE) :
    dropView (Gen.Fn.drain_drop c d.tailStart d.tailLen (d.lo, d.hi) (⟨xs.map some ++ rest, l, cp⟩, w)) =
      d.drop c ⟨xs.map some ++ rest, l, cp⟩ w := by
  rw [Drain.drop_unfold, readRange_rep xs rest l cp d.lo d.hi w hhi hlo]
  unfold Gen.Fn.drain_drop
  have e : d.lo + (d.hi - d.lo) = d.hi := Nat.add_sub_cancel' hlo
  have hloop := gen_drain_drop_loop c xs rest l cp d.tailStart d.tailLen (d.hi - d.lo) d.lo USIZE w (Nat.le_trans (Nat.le_of_eq e) hhi)
    (Nat.lt_of_le_of_lt (Nat.sub_le _ _) hhiU)
  rw [e] at hloop
  rw [hloop]
  dsimp only
  cases (dropEach c ((xs.drop d.lo).take (d.hi - d.lo)) w).2 with
  | some left => rfl
  | none =>
    dsimp only
    rw [bindW_ok, moveBack_eq]
    by_cases h1 : d.tailLen > 0
    · rw [if_pos (decide_eq_true h1), if_pos h1, gen_vec_len, pureW_ok]
      dsimp only
      by_cases h2 : d.tailStart = l
      · rw [if_neg (mt bne_iff_ne.mp (not_not_intro h2)), if_neg (not_not_intro h2), gen_drain_drop_k2 _ _ _ _ _ _ _ _ _ _ _ _ hl]
        rfl
      · rw [if_pos (bne_iff_ne.mpr h2), if_pos h2]
        unfold RsM.copy
        rw [bindW_ok, gen_drain_drop_k2 _ _ _ _ _ _ _ _ _ _ _ _ hl]
        rfl
    · rw [if_neg (mt of_decide_eq_true h1), if_neg h1]
      rfl

#print axioms gen_vec_drain
#print axioms gen_drain_next
#print axioms gen_drain_next_back
#print axioms takeFront_eq_gen
#print axioms takeBack_eq_gen
#print axioms gen_drain_drop

end Bump.V
