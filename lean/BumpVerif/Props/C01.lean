import BumpVerif.Proofs.Step
/-!
# C01 — live allocations are in-bounds and never overlap

Shape of the argument: `ArenaWF` is an invariant of every arena operation (constructor,
every allocation flavour, `dealloc`, `reset`); every block handed out lies in the *used part*
`[ptr, footer)` of a chunk the arena holds — hence inside memory obtained from the global
allocator and strictly below that chunk's footer (its bookkeeping) — and is disjoint from every
region that was in a used part before the call, i.e. from every block still live.
Allocator answers are universally quantified (subject to the allocator contract `mallocOK`,
whose violation shows up as the distinct outcome `envBad`).
-/
namespace Bump.C01
open Bump Gen

/-- Every successful allocation (fallible or not, any size incl. 0, any power-of-two alignment, any
`MIN_ALIGN`, any finger position, any chunk base the allocator returned, any refusal pattern):
non-null, inside the used part of a held chunk, disjoint from everything that was in a used part
before, and the arena stays well-formed.  No assertion fires, no unchecked arithmetic wraps. -/
theorem alloc_in_bounds_disjoint {E sz al p} (f : Bool) (s : St) (hE : EnvOK E) (h : ArenaWF E s.a)
    (hA : IsPow2 al) (hlay : sz + al ≤ 2 ^ 63)
    (hok : (allocMaybe E f sz al s).2 = .ok p) :
    0 < p ∧ ArenaWF E (allocMaybe E f sz al s).1.a ∧
    (0 < sz → InChunk (allocMaybe E f sz al s).1.a p sz) ∧
    (∀ b bn, InChunk s.a b bn → InChunk (allocMaybe E f sz al s).1.a b bn ∧ Disj p sz b bn) := by
  have sp := allocMaybe_spec f s hE h hA hlay
  obtain ⟨hwf', _, _, hpos, hsh, _⟩ := sp.ok p hok
  obtain ⟨f1, f2⟩ := hsh.frame h hwf'
  exact ⟨hpos, hwf', f2, f1⟩

/-- never an assertion failure, wrap-around or undefined behaviour on any allocation path -/
theorem alloc_no_ub {E sz al} (f : Bool) (s : St) (hE : EnvOK E) (h : ArenaWF E s.a)
    (hA : IsPow2 al) (hlay : sz + al ≤ 2 ^ 63) (w : String) :
    (allocMaybe E f sz al s).2 ≠ .bad w :=
  (allocMaybe_spec f s hE h hA hlay).nobad w

/-- a region in the used part of a chunk is inside memory the arena holds and outside the
chunk footer (the arena's own bookkeeping) -/
theorem inChunk_in_held {E a b bn} (h : ArenaWF E a) (hb : InChunk a b bn) :
    ∃ c ∈ a.chunks, c.data ≤ b ∧ b + bn ≤ c.footer ∧ c.footer + FOOTER_SIZE = c.data + c.size := by
  obtain ⟨c, hc, h1, h2⟩ := hb
  have hw := h.chunks c hc
  exact ⟨c, hc, by have := hw.ptr_ge; omega, h2, footer_add hw⟩

/-- a zero-sized request never changes where existing blocks are (it may only lower the finger by
alignment padding) and yields a non-null aligned pointer -/
theorem zero_sized_harmless {E al p} (f : Bool) (s : St) (hE : EnvOK E) (h : ArenaWF E s.a)
    (hA : IsPow2 al) (hlay : 0 + al ≤ 2 ^ 63) (hok : (allocMaybe E f 0 al s).2 = .ok p) :
    0 < p ∧ al ∣ p ∧ s.a.M ∣ p ∧ (allocMaybe E f 0 al s).1.mem = s.mem ∧
    ∀ b bn, InChunk s.a b bn → InChunk (allocMaybe E f 0 al s).1.a b bn := by
  have sp := allocMaybe_spec f s hE h hA hlay
  obtain ⟨hwf', ha, hm, hpos, hsh, _⟩ := sp.ok p hok
  exact ⟨hpos, ha, hm, sp.mem_eq, fun b bn hb => ((hsh.frame h hwf').1 b bn hb).1⟩

/-- constructors establish the invariant -/
theorem ctor_wf {E M cap a} (f : Bool) (s : St) (hM : IsPow2 M) (hMle : M ≤ 16)
    (hok : (newArena E M cap f s).2 = .ok a) : ArenaWF E a :=
  ((newArena_spec f s hM hMle).ok a hok).1

/-- `reset` keeps the invariant (and leaves nothing in any used part: see C06) -/
theorem reset_wf {E} (s : St) (h : ArenaWF E s.a) : ArenaWF E (reset s).1.a := (reset_spec s h).2.1

/-- `dealloc` (any live block, any order) keeps the invariant -/
theorem dealloc_wf {E p sz} (s : St) (hE : EnvOK E) (h : ArenaWF E s.a)
    (hblk : (s.a.cur E).ptr = p → p + sz ≤ (s.a.cur E).footer) : ArenaWF E (dealloc E p sz s).1.a :=
  (dealloc_spec s hE h hblk).2.1

/-- **Main theorem (all histories).** Start from any arena a constructor returned, with no live
blocks, and run *any* admissible history — any mix of allocation flavours (fallible or not, typed,
slices, strings, fills), Allocator-trait `allocate`/`deallocate`/`grow`/`grow_zeroed`/`shrink` on
any live block in any order, fallible initialisers that succeed or fail after allocating, keeping
and releasing blocks in the same arena, `reset`, limit changes — with any allocator answers that
respect the allocator contract. Then at the end (hence at every point): the arena is well-formed;
every live block has a `MIN_ALIGN`-aligned non-null address and, if non-empty, lies in the used
part `[finger, footer)` of a chunk the arena holds; live blocks of non-zero size are pairwise
disjoint; and no step produced an assertion failure, a wrap-around or UB. -/
theorem history {E M cap a} (f : Bool) (s0 : St) (hE : EnvOK E) (hM : IsPow2 M) (hMle : M ≤ 16)
    (hctor : (newArena E M cap f s0).2 = .ok a) (ops : List Op)
    (hrun : RunOKFull E ops ⟨{ (newArena E M cap f s0).1 with a := a }, []⟩) :
    LiveInv E (sysRun E ops ⟨{ (newArena E M cap f s0).1 with a := a }, []⟩).1 ∧
    ∀ r ∈ (sysRun E ops ⟨{ (newArena E M cap f s0).1 with a := a }, []⟩).2, ∀ w, r ≠ .bad w :=
  sysRun_live_full hE ops _ (init_live _ (ctor_wf f s0 hM hMle hctor)) hrun

/-- the same from any state that satisfies the invariant (e.g. after a panic in user code, C16A) -/
theorem history_from {E} (hE : EnvOK E) (ops : List Op) (y : Sys) (inv : LiveInv E y) (hrun : RunOKFull E ops y) :
    LiveInv E (sysRun E ops y).1 ∧ ∀ r ∈ (sysRun E ops y).2, ∀ w, r ≠ .bad w :=
  sysRun_live_full hE ops y inv hrun

theorem live_blocks_disjoint {E y b c} (inv : LiveInv E y) (hb : b ∈ y.live) (hc : c ∈ y.live) (hne : b ≠ c)
    (hbs : 0 < b.size) (hcs : 0 < c.size) : Disj b.ptr b.size c.ptr c.size :=
  (pairwise_of_ne (fun _ _ => NoOverlap.symm) inv.disj hb hc hne).disj hbs hcs

/-- non-vacuity: a two-chunk arena satisfies the invariant -/
example : ArenaWF 160 ⟨8, [⟨8192, 1008, 16, 9000, 1408⟩, ⟨4096, 496, 16, 4200, 448⟩], some 5000⟩ := by
  refine ⟨⟨3, rfl⟩, by decide, ?_, by decide, ?_, ?_, by decide⟩
  · intro c hc
    simp only [List.mem_cons, List.not_mem_nil, or_false] at hc
    rcases hc with rfl | rfl <;> exact ⟨by decide, by decide, by decide, by decide, by decide, by decide, by decide, by decide⟩
  · simp [Disj, FS]
  · intro c hc
    simp only [List.mem_cons, List.not_mem_nil, or_false] at hc
    rcases hc with rfl | rfl <;> simp [Disj, FS]

end Bump.C01

#print axioms Bump.C01.alloc_in_bounds_disjoint
#print axioms Bump.C01.alloc_no_ub
#print axioms Bump.C01.inChunk_in_held
#print axioms Bump.C01.zero_sized_harmless
#print axioms Bump.C01.ctor_wf
#print axioms Bump.C01.reset_wf
#print axioms Bump.C01.dealloc_wf
#print axioms Bump.C01.history
#print axioms Bump.C01.history_from
#print axioms Bump.C01.live_blocks_disjoint
