import BumpVerif.Proofs.VecNth
import BumpVerif.Proofs.VecFilter
import BumpVerif.Proofs.VecDedup
import BumpVerif.Proofs.VecResize
import BumpVerif.Proofs.VecMacro
import BumpVerif.Proofs.VecSplice
/-!
# C16 (Vec part) — a panicking callback never causes double drops

Callbacks are data: a predicate is `cb : Nat → Elem → Option Bool` (`cb k e` = answer of the
`k`-th call, shown element `e`; `none` = that call panics), `Clone`/`Drop` panic through the
one-shot triggers `Cfg.clonePanicAt` / `Cfg.dropPanicAt`.  Every theorem is for *all* `cb` /
all trigger values, i.e. for every callback answer list and every panic index.

Statement, per callback-taking method `m`: if `RepB c v xs` and `Own ins xs evs held`, then
after `m` returned or unwound there are `ys`, `lk` with `RepB c v' ys` and
`Own ins ys evs' (lk ++ held)` — nothing is reachable twice, nothing dropped or moved out is
reachable, nothing was dropped twice; `lk` = what leaked.  Because the conclusion is again the
hypothesis of every method theorem and of `C15_drop`, both continuations (keep using the
vector / drop it) preserve it: `C16_then_drop`.

Covered: `drain_filter` (after the fix of F5 in /repo, commit cdde727: the
predicate may panic inside a caller's `next()` or inside the destructor, and a yielded element's
destructor may panic), `retain`, `truncate`, `clear`, `drop` (panicking destructors).
`into_iter` / `drain` dropped with panicking destructors, `dedup_by(_key)` (panicking comparison /
key function), `extend` and `from_iter_in`/`collect_in` (panicking iterator), `resize`,
`extend_from_slice` and `clone` (panicking `Clone`), `splice` (iterator panicking at any `next`
call — inside `fill`, inside the second `fill` after `move_tail`, inside the collection of the
remainder — and/or a destructor of the drained range panicking), `vec![elem; n]` (panicking `Clone`).

Before that fix the `drain_filter` statement was false (F5): with
`xs = [0,1,2,3,4,5]`, "remove evens", predicate panicking at index 3 inside the caller's third
`next()`, `DrainFilter::drop` resumed filtering and left `[1,1,5]` — element 1 reachable twice.
`C16_F5_regression` states the fixed behaviour on that input.
-/
namespace Bump.V.C16
open Bump Bump.V

/-- `drain_filter`: any callback, any panic point (in a caller's `next()`, in the destructor's
loop, or a yielded element's destructor), any number of `next()` calls, dropped or forgotten -/
theorem C16_drain_filter {c : Cfg} {v : VS} {xs : List Elem} {ins held : List Nat} (hd : c.needsDrop = true)
    (h : RepB c v xs) (cb : Nat → Elem → Option Bool) (take : Nat) (forget : Bool) (w : W) (ho : Own ins xs w.evs held) :
    ∃ ys lk, RepB c (drainFilterOp c v cb take forget w).1 ys ∧
      Own ins ys (drainFilterOp c v cb take forget w).2.1.evs (lk ++ held) ∧ (forget = false → lk = []) :=
  drainFilterOp_own hd h cb take forget w ho

/-- `retain`: any callback, any panic point; nothing leaks -/
theorem C16_retain {c : Cfg} {v : VS} {xs : List Elem} {ins held : List Nat} (hd : c.needsDrop = true)
    (h : RepB c v xs) (cb : Nat → Elem → Option Bool) (w : W) (ho : Own ins xs w.evs held) :
    ∃ ys, RepB c (retain c v cb w).1 ys ∧ Own ins ys (retain c v cb w).2.1.evs held := retain_own hd h cb w ho

/-- `truncate` / `clear` / shrinking `resize` with a destructor that panics at any call -/
theorem C16_truncate {c : Cfg} {v : VS} {xs : List Elem} {ins held : List Nat} (hd : c.needsDrop = true)
    (h : RepB c v xs) (n : Nat) (w : W) (ho : Own ins xs w.evs held) :
    ∃ ys, RepB c (truncate c v n w).1 ys ∧ Own ins ys (truncate c v n w).2.1.evs held := truncate_own hd h n w ho

/-- dropping the vector with a destructor that panics at any call: every element is still
dropped exactly once -/
theorem C16_drop {c : Cfg} {v : VS} {xs : List Elem} {ins held : List Nat} (hd : c.needsDrop = true)
    (h : RepB c v xs) (w : W) (ho : Own ins xs w.evs held) : Own ins [] (dropVec c v w).1.evs held :=
  dropVec_own hd h w ho

/-- dropping a `Drain` whose elements' destructor panics at any call (`c.dropPanicAt`
arbitrary): the tail is leaked, nothing is duplicated or dropped twice -/
theorem C16_drain_drop {c : Cfg} {v : VS} {xs : List Elem} {ins held : List Nat} (hd : c.needsDrop = true)
    (h : RepB c v xs) (s e : Bd) (take back : Nat) (forget : Bool) (w : W) (ho : Own ins xs w.evs held) :
    ∃ ys lk, RepB c (drainOp c v s e take back forget w).1 ys ∧
      Own ins ys (drainOp c v s e take back forget w).2.1.evs (lk ++ held) :=
  let ⟨ys, lk, a, b, _⟩ := drainOp_own hd h s e take back forget w ho
  ⟨ys, lk, a, b⟩

/-- dropping an `IntoIter` whose elements' destructor panics at any call -/
theorem C16_into_iter_drop {c : Cfg} {v : VS} {xs : List Elem} {ins held : List Nat} (hd : c.needsDrop = true)
    (h : RepB c v xs) (take back : Nat) (forget : Bool) (w : W) (ho : Own ins xs w.evs held) :
    ∃ lk, Own ins [] (intoIterOp c v take back forget w).1.evs (lk ++ held) :=
  let ⟨lk, a, _⟩ := intoIterOp_own hd h take back forget w ho
  ⟨lk, a⟩

/-- `dedup_by` / `dedup_by_key` / `dedup` with any comparison callback (`cb k a b` = answer of
the `k`-th comparison, `none` = it panics) and destructors that may panic in the final
`truncate`: the swap-based partition keeps the slice a permutation at every moment -/
theorem C16_dedup_by {c : Cfg} {v : VS} {xs : List Elem} {ins held : List Nat} (hd : c.needsDrop = true)
    (h : RepB c v xs) (cb : Nat → Elem → Elem → Option Bool) (w : W) (ho : Own ins xs w.evs held) :
    ∃ ys, RepB c (dedupBy c v cb w).1 ys ∧ Own ins ys (dedupBy c v cb w).2.1.evs held := dedupBy_own hd h cb w ho

/-- `extend(iter)` with a caller-supplied iterator that reports any `size_hint` and panics at any
`next` call: every item is owned by the vector afterwards or was dropped exactly once -/
theorem C16_extend {c : Cfg} {v : VS} {xs : List Elem} {ins held : List Nat} (hc : CfgOK c) (hd : c.needsDrop = true)
    (h : RepB c v xs) (s : Src) (w : W) (ho : Own ins xs w.evs (ids s.items ++ held)) :
    ∃ ys, RepB c (extend c v (.src s) w).1 ys ∧ Own ins ys (extend c v (.src s) w).2.1.evs held := extend_own hc hd h s w ho

/-- `from_iter_in` / `collect_in` with such an iterator -/
theorem C16_from_iter {c : Cfg} {ins held : List Nat} (hc : CfgOK c) (hd : c.needsDrop = true)
    (s : Src) (w : W) (ho : Own ins [] w.evs (ids s.items ++ held)) :
    ∃ ys, (∀ v, (fromIter c (.src s) w).1 = some v → RepB c v ys) ∧ ((fromIter c (.src s) w).1 = none → ys = []) ∧
      Own ins ys (fromIter c (.src s) w).2.evs held := fromIter_own hc hd s w ho

/-- `resize(new_len, value)` with a `Clone` (growing) or a destructor (shrinking) that panics at
any call.  `Fresh ins n`: the ids created so far are below the counter clones take their ids
from; `ins'` = `ins` plus the ids of the clones made. -/
theorem C16_resize {c : Cfg} {v : VS} {xs : List Elem} {ins held : List Nat} (hc : CfgOK c) (hd : c.needsDrop = true)
    (hf : c.freshClone = true) (h : RepB c v xs) (n : Nat) (x : Elem) (w : W)
    (ho : Own ins xs w.evs (x.id :: held)) (hfr : Fresh ins w.nextId) :
    ∃ ys ins', RepB c (resize c v n x w).1 ys ∧ Own ins' ys (resize c v n x w).2.1.evs held ∧
      Fresh ins' (resize c v n x w).2.1.nextId := resize_own hc hd hf h n x w ho hfr

/-- `extend_from_slice(&other)` with a `Clone` that panics at any call -/
theorem C16_extend_from_slice {c : Cfg} {v : VS} {xs : List Elem} {ins held : List Nat} (hc : CfgOK c) (hd : c.needsDrop = true)
    (hf : c.freshClone = true) (h : RepB c v xs) (src : List Elem) (w : W) (ho : Own ins xs w.evs held) (hfr : Fresh ins w.nextId) :
    ∃ ys ins', RepB c (extend c v (.cloned src) w).1 ys ∧ Own ins' ys (extend c v (.cloned src) w).2.1.evs held ∧
      Fresh ins' (extend c v (.cloned src) w).2.1.nextId := extend_cloned_own hc hd hf h src w ho hfr

/-- `clone()` of the vector with an element `Clone` that panics at any call: the original keeps
`xs`; the new vector owns the clones made (`ys`), or they were dropped once with it -/
theorem C16_clone {c : Cfg} {v : VS} {xs : List Elem} {ins held : List Nat} (hc : CfgOK c) (hd : c.needsDrop = true)
    (hf : c.freshClone = true) (h : RepB c v xs) (w : W) (ho : Own ins xs w.evs held) (hfr : Fresh ins w.nextId) :
    ∃ ys ins', (∀ nv, (cloneVec c v w).1 = some nv → RepB c nv ys) ∧ ((cloneVec c v w).1 = none → ys = []) ∧
      Own ins' (xs ++ ys) (cloneVec c v w).2.evs held ∧ Fresh ins' (cloneVec c v w).2.nextId := cloneVec_own hc hd hf h w ho hfr

/-- `splice(range, iter)` with an iterator that reports any `size_hint` and panics at any `next` call
(`src.panicAt` arbitrary), destructors that may panic (`c.dropPanicAt` arbitrary), an arena that may
refuse the growth: after the unwinding — `Splice::drop`'s body is left where the panic struck, then
`Drain::drop` moves the tail back behind what was filled in, then the iterator is dropped — nothing
is reachable twice, nothing dropped is reachable, nothing is dropped twice, nothing leaks -/
theorem C16_splice {c : Cfg} {v : VS} {xs : List Elem} {ins held : List Nat} (hc : CfgOK c) (hd : c.needsDrop = true)
    (h : RepB c v xs) (s e : Bd) (src : Src) (take : Nat) (w : W) (ho : Own ins xs w.evs (ids src.items ++ held)) :
    ∃ ys, RepB c (spliceOp c v s e (.src src) take w).1 ys ∧ Own ins ys (spliceOp c v s e (.src src) take w).2.1.evs held :=
  spliceOp_own hc hd h s e src take w ho

/-- where the elements are after a `splice` whose iterator panicked: the vector is
`xs.take st ++ items.take j ++ xs.drop en` for the `j` items written before the panic — the tail is
always moved back, there is no hole and no stale copy inside `len` — and the other items have been
dropped, in order -/
theorem C16_splice_contents {c : Cfg} (hc : CfgOK c) {v : VS} {xs : List Elem} (h : RepB c v xs) {s e : Bd} {st en : Nat}
    (hok : DrainOK c xs.length s e st en) (src : Src) (take : Nat) (w : W) :
    ∃ (j : Nat) (ys : List Elem), j ≤ src.items.length ∧ ys = xs.take st ++ src.items.take j ++ xs.drop en ∧
      RepB c (spliceOp c v s e (.src src) take w).1 ys ∧
      (spliceOp c v s e (.src src) take w).2.1.evs = w.evs ++ movedEvs ((xs.drop st).take (min take (en - st))) ++
        dropEvs c ((xs.drop (st + min take (en - st))).take (en - (st + min take (en - st)))) ++ dropEvs c (src.items.drop j) ∧
      ((spliceOp c v s e (.src src) take w).2.2 ≠ none → j = src.items.length) := by
  obtain ⟨j, v', w', r, hrun, hj, hrep, hev, _, _, hres, _⟩ := spliceOp_spec hc 0 h hok src take w
  rw [hrun]
  refine ⟨j, _, hj, rfl, hrep, hev, ?_⟩
  intro hne
  cases r with
  | none => exact absurd rfl hne
  | some m => exact (hres m rfl).2

/-- `vec![in b; elem; n]` with a `Clone` that panics at any call: see `C15_vec_macro_n` -/
theorem C16_vec_macro_n {c : Cfg} {ins held : List Nat} (hc : CfgOK c) (hd : c.needsDrop = true) (hf : c.freshClone = true)
    (x : Elem) (n : Nat) (hnU : n < USIZE) (w : W) (ho : Own ins [] w.evs (x.id :: held)) (hfr : Fresh ins w.nextId) :
    ∃ ys ins', (∀ v', (vmacroN c x n w).1 = some v' → RepB c v' ys) ∧ ((vmacroN c x n w).1 = none → ys = []) ∧
      Own ins' ys (vmacroN c x n w).2.1.evs (if (vmacroN c x n w).2.2 then held else x.id :: held) ∧
      Fresh ins' (vmacroN c x n w).2.1.nextId :=
  vmacroN_own hc hd hf x n hnU w ho hfr

/-- a concrete unwinding: `[1,2,3,4].splice(1..3, iter)` where `iter` would yield `7,8,9` with
`size_hint` 3 and panics on its third `next` call (index 2, inside the second `fill`, after
`move_tail(1)`): the vector is `[1,7,8,4]` (tail moved back), `2` and `3` were dropped (nobody took
them), `9` is dropped with the iterator, nothing twice -/
theorem C16_splice_regression :
    let xs : List Elem := [⟨1, 1⟩, ⟨2, 2⟩, ⟨3, 3⟩, ⟨4, 4⟩]
    let r := spliceOp {} ⟨xs.map some, 4, 4⟩ (.inc 1) (.exc 3) (.src ⟨[⟨7, 7⟩, ⟨8, 8⟩, ⟨9, 9⟩], 3, 0, 0, some 2⟩) 0 {}
    r.1.owned.map (·.id) = [1, 7, 8, 4] ∧ r.2.1.evs = [.drop 2, .drop 3, .drop 9] ∧ r.2.2 = none := by
  decide

/-- the "drop the container afterwards" continuation, for any state satisfying the invariant:
no id is dropped twice, nothing moved out is dropped, what is neither dropped nor moved is
exactly what leaked or is held elsewhere -/
theorem C16_then_drop {c : Cfg} {v : VS} {xs : List Elem} {ins held : List Nat} (hd : c.needsDrop = true)
    (h : RepB c v xs) (w : W) (ho : Own ins xs w.evs held) :
    let evs' := (dropVec c v w).1.evs
    (evDrops evs').Nodup ∧ (∀ i ∈ evDrops evs', i ∉ evMoved evs') ∧ (evDrops evs' ++ evMoved evs' ++ held).Perm ins := by
  have ho' := dropVec_own hd h w ho
  have hdist := ho'.distinct
  refine ⟨hdist.2.2.1, hdist.2.2.2, ?_⟩
  have := ho'.1
  simpa [Own] using this

/-- the F5 input on the fixed code: six elements, "remove evens", the predicate panics when
shown the element at index 3 during the caller's third `next()`: the vector keeps `[1,3,4,5]`
(1 was kept, 3 is the element the predicate panicked on, 4 and 5 were never examined), 0 and 2
went to the caller, nothing is dropped, nothing is duplicated -/
theorem C16_F5_regression :
    let xs : List Elem := [⟨0, 0⟩, ⟨1, 1⟩, ⟨2, 2⟩, ⟨3, 3⟩, ⟨4, 4⟩, ⟨5, 5⟩]
    let v : VS := ⟨xs.map some, 6, 6⟩
    let cb : Nat → Elem → Option Bool := fun k e => if k = 3 then none else some (e.val % 2 == 0)
    let r := drainFilterOp {} v cb 3 false {}
    r.1.owned.map (·.id) = [1, 3, 4, 5] ∧ r.2.1.evs = [.moveOut 0, .moveOut 2] ∧ r.2.2 = none := by
  decide

end Bump.V.C16

#print axioms Bump.V.C16.C16_drain_filter
#print axioms Bump.V.C16.C16_retain
#print axioms Bump.V.C16.C16_truncate
#print axioms Bump.V.C16.C16_drop
#print axioms Bump.V.C16.C16_then_drop
#print axioms Bump.V.C16.C16_F5_regression
#print axioms Bump.V.C16.C16_drain_drop
#print axioms Bump.V.C16.C16_into_iter_drop
#print axioms Bump.V.C16.C16_dedup_by
#print axioms Bump.V.C16.C16_extend
#print axioms Bump.V.C16.C16_from_iter
#print axioms Bump.V.C16.C16_resize
#print axioms Bump.V.C16.C16_extend_from_slice
#print axioms Bump.V.C16.C16_clone
#print axioms Bump.V.C16.C16_splice
#print axioms Bump.V.C16.C16_splice_contents
#print axioms Bump.V.C16.C16_vec_macro_n
#print axioms Bump.V.C16.C16_splice_regression
#print axioms Bump.V.intoIterNthOp_spec
#print axioms Bump.V.dropEach_past
#print axioms Bump.V.dropEach_panicked
