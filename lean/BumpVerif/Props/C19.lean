import BumpVerif.Proofs.Ops
import BumpVerif.Proofs.Frame
/-! # C19 — impossible sizes are refused, never wrapped (arena entry points) -/
namespace Bump.C19
open Bump Gen

/-- `Layout::array` refuses every element count whose total size (rounded up to the alignment)
does not fit `isize::MAX`, and otherwise reports the exact product. -/
theorem array_refuses (esz eal n : Nat) (heal : eal ≤ 2 ^ 63) :
    (arrayLayout esz eal n = none ↔ esz * n + eal > 2 ^ 63) ∧
    (∀ t, arrayLayout esz eal n = some t → t = esz * n ∧ t + eal ≤ 2 ^ 63) := by
  refine ⟨?_, fun t => arrayLayout_some heal⟩
  rw [arrayLayout_eq esz eal n heal]
  by_cases h : esz * n + eal > 2 ^ 63
  · rw [if_pos h]; exact ⟨fun _ => h, fun _ => rfl⟩
  · rw [if_neg h]; exact ⟨nofun, fun h' => absurd h' h⟩

/-- slice methods: an unrepresentable length ends in `Err` (fallible) or a panic (infallible) and
never touches the arena. -/
theorem slice_overflow_refused (E esz eal n : Nat) (f : Bool) (s : St) (h : arrayLayout esz eal n = none) :
    step E (.array esz eal n f) s = (s, if f then .err else .panic) := by
  simp [step, h]

/-- A successful allocation never claims more than was reserved: the block `[p, p+sz)` handed
out lies inside a held chunk (C01) — here for the size-carrying entry point. -/
theorem no_overclaim {E sz al p} (f : Bool) (s : St) (hE : EnvOK E) (h : ArenaWF E s.a)
    (hA : IsPow2 al) (hlay : sz + al ≤ 2 ^ 63) (hpos : 0 < sz)
    (hok : (allocMaybe E f sz al s).2 = .ok p) :
    ∃ c ∈ (allocMaybe E f sz al s).1.a.chunks, c.data ≤ p ∧ p + sz ≤ c.data + (c.size - FOOTER_SIZE) := by
  have sp := allocMaybe_spec f s hE h hA hlay
  obtain ⟨hwf', _, _, _, hsh, _⟩ := sp.ok p hok
  obtain ⟨c, hc, h1, h2⟩ := (hsh.frame h hwf').2 hpos
  have hw := hwf'.chunks c hc
  exact ⟨c, hc, by have := hw.ptr_ge; omega, h2⟩

/-- Chunk sizing never wraps and never panics for a valid layout (`allocation_size_overflow` is
unreachable), whatever size up to `isize::MAX` is requested. -/
theorem sizing_never_wraps {M sz al : Nat} (req : Option Nat) (hM : IsPow2 M) (hMle : M ≤ 16) (hA : IsPow2 al)
    (hlay : sz + al ≤ 2 ^ 63) (hreq : req.getD DEFAULT_CHUNK_SIZE_WITHOUT_FOOTER ≤ 2 ^ 64 - 96) :
    newChunkMemoryDetails M req sz al = .err ∨
    ∃ d, newChunkMemoryDetails M req sz al = .ok d ∧ d.size = d.nswf + FOOTER_SIZE ∧ d.size < 2 ^ 64 ∧ sz ≤ d.nswf := by
  rcases details_spec req hM hMle hA hlay (by rw [OV]; exact Nat.lt_of_le_of_lt (Nat.add_le_add_right hreq 64) (by decide)) with h | ⟨d, hd, hok⟩
  · exact Or.inl h
  · exact Or.inr ⟨d, hd, hok.size_eq, hok.lt, hok.req_le hM hA⟩

/-- A capacity that cannot be a `Layout` is refused by the constructors without touching the allocator. -/
theorem ctor_refuses_huge (E M cap : Nat) (f : Bool) (s : St) (hM : IsPow2 M) (hMle : M ≤ 16)
    (hcap : cap + M > 2 ^ 63) :
    newArena E M cap f s = (s, if f then .err else .panic) := by
  unfold newArena
  have hv : validLayout cap M = false := by
    simp only [validLayout, Bool.and_eq_false_iff, decide_eq_false_iff_not]
    right; omega
  rw [ctor_asserts_pass hM hMle, if_neg Bool.false_ne_true, if_neg (by omega), hv, Bool.not_false, if_pos rfl]

example : arrayLayout 8 8 (2 ^ 61) = none := by decide
example : arrayLayout 1000 1 5 = some 5000 := by decide

end Bump.C19

#print axioms Bump.C19.array_refuses
#print axioms Bump.C19.slice_overflow_refused
#print axioms Bump.C19.no_overclaim
#print axioms Bump.C19.sizing_never_wraps
#print axioms Bump.C19.ctor_refuses_huge
