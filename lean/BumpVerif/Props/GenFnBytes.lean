import BumpVerif.Gen.FnBytes
/-! # The translated accounting getters of `src/lib.rs` (`allocated_bytes`, `chunk_capacity`) equal the hand-written model -/
namespace Bump
open Rs Gen

theorem gen_allocated_bytes (E M : Nat) (s : St) :
    Gen.Fn.allocated_bytes E M s = .ok (s.a.allocatedBytes E) := rfl

/-- the subtraction cannot wrap when `data ≤ ptr` -/
theorem gen_chunk_capacity (E M : Nat) (s : St) (h : (s.a.cur E).data ≤ (s.a.cur E).ptr) :
    Gen.Fn.chunk_capacity E M s = .ok (chunkCapacity s.a E) := by
  simp only [Gen.Fn.chunk_capacity, chunkCapacity, h, if_true]

#print axioms gen_allocated_bytes
#print axioms gen_chunk_capacity
end Bump
