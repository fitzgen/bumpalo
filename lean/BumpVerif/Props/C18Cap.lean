import BumpVerif.Proofs.VecRaw
/-!
# C18, Vec/String clause: reserved capacity is honoured in place

`Vec::push` reserves 1, `extend_from_slice` / `String::push_str` reserve the slice length, `String::push`
reserves `ch.len_utf8()` (1 through `Vec::push`, else through `extend_from_slice` of the encoding): every growing
call is `RawVec::reserve(len, k)` followed by writing `k` elements and `set_len(len + k)`.  The theorem: as long
as the running length stays within the capacity, none of these reservations reallocates — the capacity field and
the buffer (slot list) are unchanged, for every sequence of chunk sizes `ks`.
-/
namespace Bump.V.C18
open Bump

/-- a sequence of growing calls of `k₁, k₂, …` elements, seen by `RawVec` -/
def growBy (c : Cfg) : VS → List Nat → Option VS
  | v, [] => some v
  | v, k :: ks =>
    match rawReserve c v v.len k with
    | none => none
    | some v1 => growBy c { v1 with len := v1.len + k } ks

theorem rawReserve_noop {c : Cfg} {v : VS} {k : Nat} (hcap : v.cap < USIZE) (h : v.len + k ≤ capOf c v) :
    rawReserve c v v.len k = some v := by
  unfold rawReserve
  rw [reserveGen_eq hcap (by omega), if_pos (by omega)]

/-- reserved capacity accepts that many elements without moving -/
theorem reserved_capacity_honoured (c : Cfg) (ks : List Nat) :
    ∀ (v : VS), v.cap < USIZE → v.len + ks.sum ≤ capOf c v →
      growBy c v ks = some { v with len := v.len + ks.sum } := by
  induction ks with
  | nil => intro v _ _; simp [growBy]
  | cons k ks ih =>
    intro v hcap h
    simp only [List.sum_cons] at h
    have hk : v.len + k ≤ capOf c v := by omega
    simp only [growBy, rawReserve_noop hcap hk]
    have := ih { v with len := v.len + k } hcap (by simp only [capOf] at h ⊢; omega)
    rw [this]
    simp [List.sum_cons, Nat.add_assoc]

/-- after `reserve(n)` (or `with_capacity_in(n)`): whatever the reservation did, `n` more elements fit in place -/
theorem reserve_then_grow_in_place (c : Cfg) (v v' : VS) (n : Nat) (ks : List Nat)
    (hres : v'.cap < USIZE) (hroom : v'.len + n ≤ capOf c v') (hks : ks.sum ≤ n) :
    ∃ v'', growBy c v' ks = some v'' ∧ v''.cap = v'.cap ∧ v''.slots = v'.slots ∧ v''.len = v'.len + ks.sum := by
  refine ⟨_, reserved_capacity_honoured c ks v' hres (by omega), rfl, rfl, rfl⟩

/-- non-vacuity: a byte vector of capacity 12 and length 10 takes a 2-byte char without moving -/
example : growBy { esz := 1, eal := 1 } ⟨List.replicate 12 none, 10, 12⟩ [2] =
    some ⟨List.replicate 12 none, 12, 12⟩ := by decide

end Bump.V.C18

#print axioms Bump.V.C18.rawReserve_noop
#print axioms Bump.V.C18.reserved_capacity_honoured
#print axioms Bump.V.C18.reserve_then_grow_in_place
