import BumpVerif.Gen.FnVecIntoIter
import BumpVerif.Props.GenFnVecDrain
/-!
# `Vec::into_iter`, `IntoIter::{next, next_back, drop}` as translated = the model's `intoIterOp` pieces

The model runs an `IntoIter` as a `Drain` over the whole vector (`⟨len, 0, 0, len⟩`): `takeFront` / `takeBack` steps,
then `readRange` + `dropEach`.  `IntoIter`'s two pointers are the slot indices `(ptr, end)`.  For a zero-sized `T` the
source steps the pointers byte-wise and makes the values up (`mem::zeroed()`): that branch is characterised on its own
(`gen_intoiter_next_zst`: same pointer movement, same `Some`/`None`), the equalities with the model are for
`size_of::<T>() ≠ 0`.
-/
namespace Bump.V
open Bump Rs RsV RsM

theorem gen_vec_into_iter (c : Cfg) (v : VS) (w : W) : Gen.Fn.vec_into_iter c (v, w) = ((v, w), .ok (0, v.len)) := by
  unfold Gen.Fn.vec_into_iter
  dsimp only
  split <;> exact congrArg (fun n => ((v, w), Outcome.ok (0, n))) (Nat.zero_add v.len)

theorem gen_intoiter_next (c : Cfg) (he : c.esz ≠ 0) (lo hi : Nat) (v : VS) (w : W) (hle : lo ≤ hi) :
    Gen.Fn.intoiter_next c lo hi (v, w) =
      if lo < hi then
        match v.read lo with
        | none => ((v, w), .bad "next: read of an uninitialised slot")
        | some e => ((v, w), .ok (some e, lo + 1, hi))
      else ((v, w), .ok (none, lo, hi)) := by
  unfold Gen.Fn.intoiter_next
  by_cases h : lo < hi
  · rw [if_neg (mt beq_iff_eq.mp (Nat.ne_of_lt h)), if_neg (mt beq_iff_eq.mp he), if_pos h]
    rfl
  · rw [if_pos (beq_iff_eq.mpr (Nat.le_antisymm hle (Nat.not_lt.mp h))), if_neg h]

theorem gen_intoiter_next_back (c : Cfg) (he : c.esz ≠ 0) (lo hi : Nat) (v : VS) (w : W) (hle : lo ≤ hi) :
    Gen.Fn.intoiter_next_back c lo hi (v, w) =
      if lo < hi then
        match v.read (hi - 1) with
        | none => ((v, w), .bad "next_back: read of an uninitialised slot")
        | some e => ((v, w), .ok (some e, lo, hi - 1))
      else ((v, w), .ok (none, lo, hi)) := by
  unfold Gen.Fn.intoiter_next_back
  by_cases h : lo < hi
  · rw [if_neg (mt beq_iff_eq.mp (Nat.ne_of_gt h)), if_neg (mt beq_iff_eq.mp he), if_pos h]
    rfl
  · rw [if_pos (beq_iff_eq.mpr (Nat.le_antisymm (Nat.not_lt.mp h) hle)), if_neg h]

theorem gen_intoiter_next_zst (c : Cfg) (he : c.esz = 0) (lo hi : Nat) (v : VS) (w : W) :
    Gen.Fn.intoiter_next c lo hi (v, w) =
      if lo == hi then ((v, w), .ok (none, lo, hi)) else ((v, w), .ok (some zst_any, lo + 1, hi)) := by
  unfold Gen.Fn.intoiter_next
  rw [if_pos (beq_iff_eq.mpr he)]

theorem gen_intoiter_next_back_zst (c : Cfg) (he : c.esz = 0) (lo hi : Nat) (v : VS) (w : W) :
    Gen.Fn.intoiter_next_back c lo hi (v, w) =
      if hi == lo then ((v, w), .ok (none, lo, hi)) else ((v, w), .ok (some zst_any, lo, hi - 1)) := by
  unfold Gen.Fn.intoiter_next_back
  rw [if_pos (beq_iff_eq.mpr he)]

/-- the model's `takeFront` on an `IntoIter` is `k` calls of the translated `next`, each followed by the hand-over event -/
def genIITakeFront (c : Cfg) (v : VS) : Nat → Drain → W → Drain × W × List Elem
  | 0, d, w => (d, w, [])
  | k + 1, d, w =>
    match Gen.Fn.intoiter_next c d.lo d.hi (v, w) with
    | (_, .ok (some e, lo, hi)) =>
      let r := genIITakeFront c v k { d with lo := lo, hi := hi } (w.moved e)
      (r.1, r.2.1, e :: r.2.2)
    | (_, .ok (none, _, _)) => (d, w, [])
    | (_, _) => (d, w.flag "drain read an uninitialised slot", [])

theorem takeFront_eq_gen_intoiter (c : Cfg) (he : c.esz ≠ 0) (v : VS) :
    ∀ (k : Nat) (d : Drain) (w : W), d.lo ≤ d.hi → Drain.takeFront v k d w = genIITakeFront c v k d w := by
  intro k
  induction k with
  | zero => intro d w _; rfl
  | succ k ih =>
    intro d w hle
    unfold Drain.takeFront genIITakeFront
    rw [gen_intoiter_next c he d.lo d.hi v w hle]
    by_cases h : d.lo < d.hi
    · rw [if_pos h, if_pos h]
      cases v.read d.lo with
      | none => rfl
      | some e => dsimp only; rw [ih { d with lo := d.lo + 1 } _ h]
    · rw [if_neg h, if_neg h]

def genIITakeBack (c : Cfg) (v : VS) : Nat → Drain → W → Drain × W × List Elem
  | 0, d, w => (d, w, [])
  | k + 1, d, w =>
    match Gen.Fn.intoiter_next_back c d.lo d.hi (v, w) with
    | (_, .ok (some e, lo, hi)) =>
      let r := genIITakeBack c v k { d with lo := lo, hi := hi } (w.moved e)
      (r.1, r.2.1, e :: r.2.2)
    | (_, .ok (none, _, _)) => (d, w, [])
    | (_, _) => (d, w.flag "drain read an uninitialised slot", [])

theorem takeBack_eq_gen_intoiter (c : Cfg) (he : c.esz ≠ 0) (v : VS) :
    ∀ (k : Nat) (d : Drain) (w : W), d.lo ≤ d.hi → Drain.takeBack v k d w = genIITakeBack c v k d w := by
  intro k
  induction k with
  | zero => intro d w _; rfl
  | succ k ih =>
    intro d w hle
    unfold Drain.takeBack genIITakeBack
    rw [gen_intoiter_next_back c he d.lo d.hi v w hle]
    by_cases h : d.lo < d.hi
    · rw [if_pos h, if_pos h]
      cases v.read (d.hi - 1) with
      | none => rfl
      | some e => dsimp only; rw [ih _ _ (Nat.le_sub_one_of_lt h)]
    · rw [if_neg h, if_neg h]

theorem gen_intoiter_drop_loop (c : Cfg) (he : c.esz ≠ 0) (xs : List Elem) (rest : List (Option Elem)) (l cp : Nat) :
    ∀ (n lo F : Nat) (w : W), lo + n ≤ xs.length → n < F →
      Gen.Fn.intoiter_drop.loop_1 c F lo (lo + n) (⟨xs.map some ++ rest, l, cp⟩, w) =
        match (dropEach c ((xs.drop lo).take n) w).2 with
        | some _ => ((⟨xs.map some ++ rest, l, cp⟩, (dropEach c ((xs.drop lo).take n) w).1), .panic)
        | none => ((⟨xs.map some ++ rest, l, cp⟩, (dropEach c ((xs.drop lo).take n) w).1), .ok (lo + n, lo + n)) :=
  for_each_drop_loop c xs rest l cp (fun F lo hi s => Gen.Fn.intoiter_drop.loop_1 c F lo hi s) (fun hi => (hi, hi))
    (fun F lo hi s e hlt hr => by
      obtain ⟨v, w⟩ := s
      show Gen.Fn.intoiter_drop.loop_1 c (F + 1) lo hi (v, w) = _
      rw [Gen.Fn.intoiter_drop.loop_1, gen_intoiter_next c he lo hi v w (Nat.le_of_lt hlt), if_pos hlt, (hr : v.read lo = some e)]
      rfl)
    (fun F hi s => by
      obtain ⟨v, w⟩ := s
      show Gen.Fn.intoiter_drop.loop_1 c (F + 1) hi hi (v, w) = _
      rw [Gen.Fn.intoiter_drop.loop_1, gen_intoiter_next c he hi hi v w (Nat.le_refl hi), if_neg (Nat.lt_irrefl hi)]
      rfl)

/-- the destructor of an `IntoIter` over `[lo, hi)` of a represented vector: `none` = a destructor panicked -/
theorem gen_intoiter_drop (c : Cfg) (he : c.esz ≠ 0) (xs : List Elem) (rest : List (Option Elem)) (l cp lo hi : Nat) (w : W)
    (hle : lo ≤ hi) (hhi : hi ≤ xs.length) (hU : hi < USIZE) :
    dropView (Gen.Fn.intoiter_drop c lo hi (⟨xs.map some ++ rest, l, cp⟩, w)) =
      (⟨xs.map some ++ rest, l, cp⟩, (dropEach c ((xs.drop lo).take (hi - lo)) w).1, (dropEach c ((xs.drop lo).take (hi - lo)) w).2.isSome) := by
  unfold Gen.Fn.intoiter_drop
  have e : lo + (hi - lo) = hi := Nat.add_sub_cancel' hle
  have hloop := gen_intoiter_drop_loop c he xs rest l cp (hi - lo) lo USIZE w (Nat.le_trans (Nat.le_of_eq e) hhi)
    (Nat.lt_of_le_of_lt (Nat.sub_le _ _) hU)
  rw [e] at hloop
  rw [hloop]
  cases (dropEach c ((xs.drop lo).take (hi - lo)) w).2 <;> rfl

/-- `IntoIter::size_hint`; for zero-sized elements the two "pointers" are counters and the difference is a wrapping
subtraction -/
theorem gen_intoiter_size_hint (c : Cfg) (lo hi : Nat) (hle : lo ≤ hi) (hU : hi < USIZE) :
    Gen.Fn.intoiter_size_hint c lo hi = .ok ((hi - lo, some (hi - lo)), lo, hi) := by
  unfold Gen.Fn.intoiter_size_hint Gen.Fn.intoiter_size_hint.k_1
  by_cases he : (c.esz == 0) = true
  · rw [if_pos he, wsub_of_le hle hU]
  · rw [if_neg he, if_pos hle]

#print axioms gen_intoiter_size_hint

#print axioms gen_vec_into_iter
#print axioms gen_intoiter_next
#print axioms gen_intoiter_next_back
#print axioms gen_intoiter_next_zst
#print axioms gen_intoiter_next_back_zst
#print axioms takeFront_eq_gen_intoiter
#print axioms takeBack_eq_gen_intoiter
#print axioms gen_intoiter_drop

end Bump.V
