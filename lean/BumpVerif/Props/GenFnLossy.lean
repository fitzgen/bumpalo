import BumpVerif.Gen.FnLossy
import BumpVerif.Proofs.StrLossySpec
/-!
# `Utf8LossyChunksIter::next` as translated = the hand-written `lossyNext` (`Model/Lossy.lean`)

The source's `match (byte, safe_get(..))` arms become an `if`-chain in arm order, each arm with its own copy of what
follows; the model tests `bad3` / `bad4` once.  `arms3_eq` / `arms4_eq` say the two agree for every pair of bytes; the rest
is the same control flow.
-/
namespace Bump.Str
open Bump

/-- the four accepting arms of the width-3 `match`, in source order -/
def arms3 (b s : UInt8) : Bool :=
  ((b == 224) && (decide (160 ≤ s) && decide (s ≤ 191))) || ((decide (225 ≤ b) && decide (b ≤ 236)) && (decide (128 ≤ s) && decide (s ≤ 191)))
  || ((b == 237) && (decide (128 ≤ s) && decide (s ≤ 159))) || ((decide (238 ≤ b) && decide (b ≤ 239)) && (decide (128 ≤ s) && decide (s ≤ 191)))

/-- the three accepting arms of the width-4 `match` -/
def arms4 (b s : UInt8) : Bool :=
  ((b == 240) && (decide (144 ≤ s) && decide (s ≤ 191))) || ((decide (241 ≤ b) && decide (b ≤ 243)) && (decide (128 ≤ s) && decide (s ≤ 191)))
  || ((b == 244) && (decide (128 ≤ s) && decide (s ≤ 143)))

theorem u8_beq (a b : UInt8) : (a == b) = decide (a.toNat = b.toNat) := by
  rw [Bool.eq_iff_iff, beq_iff_eq, decide_eq_true_eq, UInt8.toNat_inj]

-- `arms3` and `bad3` list the same four arms in the same order; only the byte comparisons have to be read over `toNat`.
theorem arms3_eq (b s : UInt8) : arms3 b s = !(bad3 b s) := by
  simp only [arms3, bad3, Bool.not_not, Bool.decide_or, Bool.decide_and, u8_beq, UInt8.le_iff_toNat_le,
    UInt8.reduceToNat, Bool.and_assoc, Bool.or_assoc]

theorem arms4_eq (b s : UInt8) : arms4 b s = !(bad4 b s) := by
  simp only [arms4, bad4, Bool.not_not, Bool.decide_or, Bool.decide_and, u8_beq, UInt8.le_iff_toNat_le,
    UInt8.reduceToNat, Bool.and_assoc, Bool.or_assoc]

theorem ite_chain4 {α : Type} (c1 c2 c3 c4 : Bool) (a b : α) :
    (if c1 then a else if c2 then a else if c3 then a else if c4 then a else b) = if (c1 || c2 || c3 || c4) then a else b := by
  cases c1 <;> cases c2 <;> cases c3 <;> cases c4 <;> rfl

theorem ite_chain3 {α : Type} (c1 c2 c3 : Bool) (a b : α) :
    (if c1 then a else if c2 then a else if c3 then a else b) = if (c1 || c2 || c3) then a else b := by
  cases c1 <;> cases c2 <;> cases c3 <;> rfl

theorem gen_unsafe_get (xs : Bytes) (i : Nat) : Gen.Fn.lossy_unsafe_get xs i = xs.getD i 0 := rfl

theorem gen_safe_get (xs : Bytes) (i : Nat) : Gen.Fn.lossy_safe_get xs i = safeGet xs i := by
  unfold Gen.Fn.lossy_safe_get safeGet
  by_cases h : i ≥ xs.length <;> simp [h, gen_unsafe_get]

theorem notContTag_def (b : UInt8) : ((b &&& 192) != (128 : UInt8)) = notContTag b := rfl

theorem nat_beq_true {x n : Nat} (h : x = n) : (x == n) = true := by subst h; simp

theorem arms3_ite {α : Type} (b s : UInt8) (x y : α) :
    (if ((b == 224) && (decide (160 ≤ s) && decide (s ≤ 191))) then x
     else if ((decide (225 ≤ b) && decide (b ≤ 236)) && (decide (128 ≤ s) && decide (s ≤ 191))) then x
     else if ((b == 237) && (decide (128 ≤ s) && decide (s ≤ 159))) then x
     else if ((decide (238 ≤ b) && decide (b ≤ 239)) && (decide (128 ≤ s) && decide (s ≤ 191))) then x else y)
      = if bad3 b s then y else x := by
  have := arms3_eq b s
  unfold arms3 at this
  rw [ite_chain4, this]
  cases bad3 b s <;> rfl

theorem arms4_ite {α : Type} (b s : UInt8) (x y : α) :
    (if ((b == 240) && (decide (144 ≤ s) && decide (s ≤ 191))) then x
     else if ((decide (241 ≤ b) && decide (b ≤ 243)) && (decide (128 ≤ s) && decide (s ≤ 191))) then x
     else if ((b == 244) && (decide (128 ≤ s) && decide (s ≤ 143))) then x else y)
      = if bad4 b s then y else x := by
  have := arms4_eq b s
  unfold arms4 at this
  rw [ite_chain3, this]
  cases bad4 b s <;> rfl

def LStep.next (src : Bytes) (k : Nat → Option (Option Chunk)) : LStep → Option (Option Chunk)
  | .adv j => k j
  | .err i_ j => some (some ⟨src.take i_, (src.drop i_).take (j - i_), src.drop j⟩)

/-- one turn of the translated loop, in the model's terms: pushed through the tests of `lossyStep`, the continuation
meets the same tests in the translation, the `match` arms apart (`arms3_ite`, `arms4_ite`) -/
theorem gen_lossy_loop_step (src : Bytes) (fuel i : Nat) :
    Gen.Fn.lossy_next.loop src (fuel + 1) i =
      if i < src.length then (lossyStep src i).next src (Gen.Fn.lossy_next.loop src fuel)
      else some (some ⟨src, [], []⟩) := by
  rw [Gen.Fn.lossy_next.loop]
  simp only [lossyStep, apply_ite (LStep.next src (Gen.Fn.lossy_next.loop src fuel))]
  rw [arms3_ite, arms4_ite]
  simp only [LStep.next, Gen.Fn.lossy_unsafe_get, gen_safe_get, notContTag_def, List.drop_zero, Nat.sub_zero, decide_eq_true_eq,
    UInt8.lt_iff_toNat_lt, UInt8.reduceToNat, beq_iff_eq]

theorem gen_lossy_loop (src : Bytes) : ∀ (fuel i : Nat), Gen.Fn.lossy_next.loop src fuel i = (lossyScan src fuel i).map some := by
  intro fuel
  induction fuel with
  | zero => intro i; rfl
  | succ fuel ih =>
    intro i
    rw [gen_lossy_loop_step]
    conv => rhs; unfold lossyScan
    by_cases hi : i < src.length
    · simp only [hi, if_true]
      cases lossyStep src i with
      | adv j => exact ih j
      | err a b => rfl
    · simp only [hi, if_false]; rfl

/-- `some`: the loop as translated never runs out of fuel -/
theorem gen_lossy_next (src : Bytes) : Gen.Fn.lossy_next src = some (lossyNext src) := by
  unfold Gen.Fn.lossy_next lossyNext
  by_cases h : src = []
  · subst h; rfl
  · have he : src.isEmpty = false := by simpa using h
    obtain ⟨ch, hch, _⟩ := lossyScan_shape src (src.length + 1) 0 (Nat.zero_le _) (by omega)
    simp only [he, Bool.false_eq_true, if_false, h, gen_lossy_loop, hch]
    rfl

theorem isEmpty_not_ne (b : Bytes) : (!b.isEmpty) = decide (b ≠ []) := by
  cases b <;> simp

theorem gen_lossy_in_loop (dbg : Bool) (v : Bytes) : ∀ (fuel : Nat) (it res : Bytes),
    Gen.Fn.from_utf8_lossy_in.loop dbg v fuel it res = lossyRest fuel it res := by
  intro fuel
  induction fuel with
  | zero => intro it res; rfl
  | succ fuel ih =>
    intro it res
    unfold Gen.Fn.from_utf8_lossy_in.loop lossyRest
    rw [gen_lossy_next]
    cases lossyNext it with
    | none => rfl
    | some ch =>
      simp only [isEmpty_not_ne, ih]
      by_cases hb : ch.broken = []
      · simp [hb]
      · simp [hb, REPLACEMENT]

theorem gen_from_utf8_lossy_in (dbg : Bool) (v : Bytes) : Gen.Fn.from_utf8_lossy_in dbg v = fromUtf8Lossy dbg v := by
  unfold Gen.Fn.from_utf8_lossy_in fromUtf8Lossy
  rw [gen_lossy_next]
  cases lossyNext v with
  | none => rfl
  | some ch =>
    simp only [isEmpty_not_ne, gen_lossy_in_loop]
    by_cases hl : ch.valid.length = v.length
    · by_cases hb : ch.broken = [] <;> simp [hl, hb]
    · have : (ch.valid.length == v.length) = false := by simpa using hl
      simp only [this, hl, Bool.false_eq_true, if_false]
      by_cases hb : ch.broken = []
      · simp [hb]
      · simp [hb, REPLACEMENT]

#print axioms arms3_eq
#print axioms arms4_eq
#print axioms gen_lossy_loop
#print axioms gen_lossy_next

end Bump.Str
#print axioms Bump.Str.gen_from_utf8_lossy_in
