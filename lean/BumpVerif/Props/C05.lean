import BumpVerif.Proofs.BorrowAccept
import BumpVerif.Gen.Api
/-!
# C05 — borrow rules make misuse a compile error

Proved over the *signature model*: `Gen.Api.table` is regenerated from `/repo/src` on every run
(receiver kind, lifetime carried by the return type, `unsafe`, struct fields, explicit auto-trait
impls, `Drop` impls); `Model/Borrow.lean` is a loan-liveness checker for straight-line client
programs over one arena, `Model/AutoTraits.lean` the structural `Send`/`Sync` rule.

* the rejection theorems hold for **every** program that contains the misuse pattern: arbitrary
  statements before, between and after (`pre`, `mid`, `post`, `post'` are universally quantified
  lists of arbitrary statements, so any number of other live allocations and the misuse at any
  position), for every method of the named class, by induction over the program;
* the acceptance theorems hold for every program of the accepted shape (`benign`: any number of
  allocation calls, container constructors, plain queries and uses, in any order);
* each has `GoodSigs t` as its only hypothesis about the crate, and `GoodSigs Gen.Api.table` is
  decided on the generated table — a signature change (`reset(&self)`, a dropped lifetime link, a
  safe `&self` chunk iterator) makes `good_sigs_generated` fail; an added `impl Sync for Bump`
  makes `bump_not_sync` fail.

What is *not* proved here: that rustc's borrow checker agrees with `accepts`.  That is validated
on generated probe programs compiled against the crate (tools/families/borrow.py), not modelled.
-/
namespace Bump.C05
open Bump.Sig Bump.Borrow


theorem good_sigs_generated : GoodSigs Gen.Api.table := by decide +kernel


/-- methods whose result holds a shared loan on the arena: every allocation method of `Bump` and
every constructor of `Vec`, `String`, `Box`, `RawVec` -/
def sharedHolderIds : List MId := allocNames.map (fun n => ⟨"Bump", n⟩) ++ ctorIds

/-- `m` hands out something that borrows the arena: shared (allocation methods, constructors) or
exclusive (`iter_allocated_chunks`) -/
def IsHolder (m : MId) (k : LoanKind) : Prop :=
  (m ∈ sharedHolderIds ∧ k = .shared) ∨ (m = ⟨"Bump", "iter_allocated_chunks"⟩ ∧ k = .excl)

theorem mem_sharedHolderIds {m : MId} :
    m ∈ sharedHolderIds ↔ (∃ n, n ∈ allocNames ∧ ⟨"Bump", n⟩ = m) ∨ m ∈ ctorIds := by
  unfold sharedHolderIds
  rw [List.mem_append, List.mem_map]

theorem holder_of_isHolder {t : Sigs} (hg : GoodSigs t) {m : MId} {k : LoanKind}
    (h : IsHolder m k) : Holder t m k := by
  rcases h with ⟨hm, rfl⟩ | ⟨rfl, rfl⟩
  · rcases mem_sharedHolderIds.mp hm with ⟨n, hn, rfl⟩ | hm
    · exact alloc_holder hg hn
    · exact (ctor_holder hg hm).holder
  · exact iter_holder hg

/-- statements that invalidate everything allocated so far: `b.reset()`,
`b.iter_allocated_chunks()`, `drop(b)`, the end of `b`'s scope, moving `b` away -/
def Invalidates (c : Stmt) : Prop :=
  (∃ y e, e ∈ exclNames ∧ c = .call y ⟨"Bump", e⟩ none) ∨ (∃ how, c = .endArena how) ∨ c = .moveArena

theorem invalidates_access {t : Sigs} (hg : GoodSigs t) {c : Stmt} (h : Invalidates c) :
    ∃ a, access t c = some a ∧ ∀ k, conflicts a k = true := by
  rcases h with ⟨y, e, he, rfl⟩ | ⟨how, rfl⟩ | rfl
  · exact ⟨.excl, excl_access hg he y none, fun k => by cases k <;> rfl⟩
  · cases how with
    | dropCall => exact ⟨.moveOut, rfl, fun k => by cases k <;> rfl⟩
    | scopeEnd => exact ⟨.scopeOut, rfl, fun k => by cases k <;> rfl⟩
  · exact ⟨.moveOut, rfl, fun k => by cases k <;> rfl⟩

/-- **Master rejection theorem.**  For good signatures, every program in which a value obtained
from the arena (reference, slice, `str`, `Vec`, `String`, `Box`, `RawVec`, chunk iterator) is used
after a statement that invalidates the arena's contents is rejected — whatever else the program
does before, in between and afterwards. -/
theorem misuse_rejected {t : Sigs} (hg : GoodSigs t) {m : MId} {k : LoanKind} {c : Stmt}
    (hm : IsHolder m k) (hc : Invalidates c)
    (pre mid post post' : List Stmt) (x : Var) (src : Option Var) :
    accepts t (pre ++ .call (some x) m src :: (mid ++ c :: (post ++ .use x :: post'))) = false := by
  obtain ⟨a, ha, hcf⟩ := invalidates_access hg hc
  exact holder_conflict_rej (holder_of_isHolder hg hm) ha (hcf k) pre mid post post' x src

/-- use-after-reset: a reference handed out by any allocation method, used after `reset` (or
after starting a chunk iteration), with anything before, between and after. -/
theorem use_after_reset_rejected {t : Sigs} (hg : GoodSigs t) {n e : String}
    (hn : n ∈ allocNames) (he : e ∈ exclNames)
    (pre mid post post' : List Stmt) (x : Var) (src y : Option Var) :
    accepts t (pre ++ .call (some x) ⟨"Bump", n⟩ src ::
      (mid ++ .call y ⟨"Bump", e⟩ none :: (post ++ .use x :: post'))) = false :=
  misuse_rejected hg
    (Or.inl ⟨mem_sharedHolderIds.mpr (.inl ⟨n, hn, rfl⟩), rfl⟩)
    (Or.inl ⟨y, e, he, rfl⟩) pre mid post post' x src

/-- the same for `Vec`, `String`, `Box`, `RawVec` obtained from any of their constructors -/
theorem container_use_after_reset_rejected {t : Sigs} (hg : GoodSigs t) {m : MId} {e : String}
    (hm : m ∈ ctorIds) (he : e ∈ exclNames)
    (pre mid post post' : List Stmt) (x : Var) (src y : Option Var) :
    accepts t (pre ++ .call (some x) m src ::
      (mid ++ .call y ⟨"Bump", e⟩ none :: (post ++ .use x :: post'))) = false :=
  misuse_rejected hg (Or.inl ⟨mem_sharedHolderIds.mpr (.inr hm), rfl⟩)
    (Or.inl ⟨y, e, he, rfl⟩) pre mid post post' x src

/-- invalidating statements inside the arena's scope: everything of `Invalidates` except the end
of the arena's own block (there an unused container is block-local and dies before the arena) -/
def InvalidatesInScope (c : Stmt) : Prop :=
  (∃ y e, e ∈ exclNames ∧ c = .call y ⟨"Bump", e⟩ none) ∨ c = .endArena .dropCall ∨ c = .moveArena

/-- a container that is still alive (not dropped or consumed in between) makes `reset`, chunk
iteration, dropping and moving the arena an error even when it is never used again: its
destructor runs at the end of the scope. -/
theorem container_alive_across_invalidation_rejected {t : Sigs} (hg : GoodSigs t) {m : MId}
    {c : Stmt} (hm : m ∈ ctorIds) (hc : InvalidatesInScope c) (pre mid post : List Stmt) (x : Var)
    (src : Option Var) (hnk : mid.all (fun s => !kills t x s) = true) :
    accepts t (pre ++ .call (some x) m src :: (mid ++ c :: post)) = false := by
  rcases hc with ⟨y, e, he, rfl⟩ | rfl | rfl
  · exact glue_conflict_rej (ctor_holder hg hm) (excl_access hg he y none) rfl rfl pre mid post x src hnk
  · exact glue_conflict_rej (ctor_holder hg hm) (a := .moveOut) rfl rfl rfl pre mid post x src hnk
  · exact glue_conflict_rej (ctor_holder hg hm) (a := .moveOut) rfl rfl rfl pre mid post x src hnk

/-- use-after-drop and escaping the arena's scope: anything obtained from the arena, used after
`drop(b)` or after the block that declared `b` has ended. -/
theorem use_after_drop_rejected {t : Sigs} (hg : GoodSigs t) {m : MId} {k : LoanKind}
    (hm : IsHolder m k) (how : EndHow) (pre mid post post' : List Stmt) (x : Var) (src : Option Var) :
    accepts t (pre ++ .call (some x) m src ::
      (mid ++ .endArena how :: (post ++ .use x :: post'))) = false :=
  misuse_rejected hg hm (Or.inr (Or.inl ⟨how, rfl⟩)) pre mid post post' x src

/-- move-while-borrowed: the arena moved into another binding or thread while something obtained
from it is used afterwards. -/
theorem move_while_borrowed_rejected {t : Sigs} (hg : GoodSigs t) {m : MId} {k : LoanKind}
    (hm : IsHolder m k) (pre mid post post' : List Stmt) (x : Var) (src : Option Var) :
    accepts t (pre ++ .call (some x) m src ::
      (mid ++ .moveArena :: (post ++ .use x :: post'))) = false :=
  misuse_rejected hg hm (Or.inr (Or.inr rfl)) pre mid post post' x src

/-- the statement takes (at least) shared access to the arena: any allocation method, any plain
`&self` query, any container constructor -/
def TouchesArena (c : Stmt) : Prop :=
  (∃ y n src, (n ∈ allocNames ∨ n ∈ plainNames) ∧ c = .call y ⟨"Bump", n⟩ src) ∨
  (∃ y m src, m ∈ ctorIds ∧ c = .call y m src)

theorem touchesArena_access {t : Sigs} (hg : GoodSigs t) {c : Stmt} (hc : TouchesArena c) :
    access t c = some .shared := by
  rcases hc with ⟨y, n, src, hn, rfl⟩ | ⟨y, m, src, hm, rfl⟩
  · exact ref_access hg hn y src
  · exact ctor_access hg hm y src

/-- allocate-during-iteration: while the chunk iterator is used later, no allocation, query or
container construction on the same arena is accepted (nor a second iteration or a reset:
`misuse_rejected` with the exclusive holder). -/
theorem allocate_during_iteration_rejected {t : Sigs} (hg : GoodSigs t) {c : Stmt}
    (hc : TouchesArena c) (pre mid post post' : List Stmt) (it : Var) :
    accepts t (pre ++ .call (some it) ⟨"Bump", "iter_allocated_chunks"⟩ none ::
      (mid ++ c :: (post ++ .use it :: post'))) = false :=
  holder_conflict_rej (iter_holder hg) (touchesArena_access hg hc) rfl pre mid post post' it none

/-- values derived from a container or iterator (`into_bump_slice`, `into_bump_str`, `drain`,
`into_iter`, `as_slice`, `as_str`, `bump()`, `Box::leak`, `ChunkIter::next` …) still carry the
arena: using them after the arena was invalidated is rejected. -/
theorem derived_use_after_invalidation_rejected {t : Sigs} (hg : GoodSigs t) {m : MId}
    {k : LoanKind} {d : MId × Recv} {c : Stmt} (hm : IsHolder m k) (hd : d ∈ deriveIds)
    (hc : Invalidates c) (pre mid1 mid2 post post' : List Stmt) (x y : Var) (src : Option Var) :
    accepts t (pre ++ .call (some x) m src ::
      (mid1 ++ .derive y d.1 x :: (mid2 ++ c :: (post ++ .use y :: post')))) = false := by
  obtain ⟨a, ha, hcf⟩ := invalidates_access hg hc
  exact derived_conflict_rej (holder_of_isHolder hg hm) (good_derive hg hd) ha (hcf k)
    pre mid1 mid2 post post' x y src

/-- a chunk handed out by `ChunkIter::next` is still an exclusive borrow of the arena: allocating
while the chunk is used later is rejected. -/
theorem chunk_use_after_allocation_rejected {t : Sigs} (hg : GoodSigs t) {c : Stmt}
    (hc : TouchesArena c) (pre mid1 mid2 post post' : List Stmt) (it ch : Var) :
    accepts t (pre ++ .call (some it) ⟨"Bump", "iter_allocated_chunks"⟩ none ::
      (mid1 ++ .derive ch ⟨"ChunkIter", "next"⟩ it :: (mid2 ++ c :: (post ++ .use ch :: post')))) = false :=
  derived_conflict_rej (iter_holder hg)
    (good_derive hg (d := (⟨"ChunkIter", "next"⟩, .refMut)) (by decide)) (touchesArena_access hg hc) rfl
    pre mid1 mid2 post post' it ch none

/-- a result escaping by `return` from the function that owns the arena -/
theorem escape_by_return_rejected {t : Sigs} (hg : GoodSigs t) {m : MId} {k : LoanKind}
    (hm : IsHolder m k) (pre mid post : List Stmt) (x : Var) (src : Option Var) :
    accepts t (pre ++ .call (some x) m src :: (mid ++ .ret x :: post)) = false :=
  ret_rej (holder_of_isHolder hg hm) pre mid post x src


/-- many allocations alive at once: any number of allocation calls, container constructions,
plain queries and uses of any earlier result, in any order. -/
theorem many_allocations_alive_accepted {t : Sigs} (hg : GoodSigs t) {p : Program}
    (h : benign true [] [] p = true) : accepts t p = true :=
  benign_accepts hg h

/-- moving an idle arena (into another binding or thread): allocations whose results are plain
references no longer used afterwards, the move, then any benign program over new names. -/
theorem idle_arena_move_accepted {t : Sigs} (hg : GoodSigs t) {p1 p2 : List Stmt}
    (h1 : benign false [] [] p1 = true) (h2 : benign true (outB [] p1) [] p2 = true) :
    accepts t (p1 ++ .moveArena :: p2) = true :=
  idle_move_accepts hg h1 h2

/-- a result outliving the source it was copied from (`alloc_str`, `alloc_slice_copy`,
`String::from_str_in` …: any allocation method or constructor). -/
theorem result_outlives_source_accepted {t : Sigs} (hg : GoodSigs t) {pre post : List Stmt}
    {m : MId} {s x : Var} (hpre : benign true [] [] pre = true)
    (hm : m ∈ sharedHolderIds) (hs : s ∉ outB [] pre) (hx : x ∉ outB [] pre) (hxs : x ≠ s)
    (hpost : benign true (x :: s :: outB [] pre) (x :: outB [] pre) post = true) :
    accepts t (pre ++ .newSrc s :: .call (some x) m (some s) :: .dropVar s :: .use x :: post) = true := by
  rcases mem_sharedHolderIds.mp hm with ⟨n, hn, rfl⟩ | hm
  · obtain ⟨sg, hl, hr, _, hro, _⟩ := good_alloc hg hn
    exact outlives_source_accepts hg hl (.inl hr) hro hpre hs hx hxs hpost
  · obtain ⟨sg, hl, hr, _, _, hro, _⟩ := good_ctor hg hm
    exact outlives_source_accepts hg hl (.inr hr) hro hpre hs hx hxs hpost

/-! the hypotheses are satisfiable, and the theorems apply to the generated table -/

example : benign true [] []
    [.call (some 1) ⟨"Bump", "alloc"⟩ none, .call (some 2) ⟨"Vec", "new_in"⟩ none,
     .call (some 3) ⟨"Bump", "alloc_str"⟩ none, .use 1, .call none ⟨"Bump", "chunk_capacity"⟩ none,
     .use 3, .use 2, .use 1] = true := by decide +kernel

example : accepts Gen.Api.table
    [.call (some 1) ⟨"Bump", "alloc"⟩ none, .call (some 2) ⟨"Vec", "new_in"⟩ none, .use 1, .use 2] = true :=
  many_allocations_alive_accepted good_sigs_generated (by decide +kernel)

example : accepts Gen.Api.table
    [.call (some 1) ⟨"Bump", "alloc"⟩ none, .call none ⟨"Bump", "reset"⟩ none, .use 1] = false :=
  use_after_reset_rejected good_sigs_generated (by decide +kernel) (by decide +kernel) [] [] [] [] 1 none none

example : accepts Gen.Api.table
    [.call (some 1) ⟨"Bump", "alloc"⟩ none, .use 1, .moveArena, .call (some 2) ⟨"Bump", "alloc"⟩ none, .use 2] = true :=
  idle_arena_move_accepted good_sigs_generated (p1 := [.call (some 1) ⟨"Bump", "alloc"⟩ none, .use 1])
    (by decide +kernel) (by decide +kernel)

example : accepts Gen.Api.table
    [.newSrc 1, .call (some 2) ⟨"Bump", "alloc_str"⟩ (some 1), .dropVar 1, .use 2] = true :=
  result_outlives_source_accepted good_sigs_generated (pre := []) rfl (by decide +kernel) (by decide) (by decide)
    (by decide) rfl


open Gen.Api in
/-- `Bump: Send` (by its explicit impl; the fields alone would not be) -/
theorem bump_send : structSend table "Bump" (true, true) = true := by decide +kernel

open Gen.Api in
/-- `Bump: !Sync` (`Cell` fields, no explicit impl) -/
theorem bump_not_sync : structSync table "Bump" (true, true) = false := by decide +kernel

open Gen.Api in
/-- `&Bump: !Send` (sharing one arena between threads), while `&mut Bump: Send` -/
theorem ref_bump_not_send :
    isSend table [] (.ref (.adt "Bump" [])) = false ∧ isSend table [] (.refMut (.adt "Bump" [])) = true := by
  decide +kernel

open Gen.Api in
/-- `Vec`, `String`, `RawVec`, `FromUtf8Error`, `DrainFilter`, `ChunkIter`, `ChunkRawIter` are
neither `Send` nor `Sync`, whatever their type parameters are -/
theorem containers_not_send_not_sync :
    ∀ n ∈ ["Vec", "String", "RawVec", "FromUtf8Error", "vec::DrainFilter", "ChunkIter", "ChunkRawIter"],
      ∀ s y : Bool, structSend table n (s, y) = false ∧ structSync table n (s, y) = false := by
  decide +kernel

open Gen.Api in
/-- `Box<'a, T>: Send` iff `T: Send`, `Sync` iff `T: Sync` -/
theorem box_send_iff : ∀ s y : Bool,
    structSend table "Box" (s, y) = s ∧ structSync table "Box" (s, y) = y := by decide +kernel

open Gen.Api in
/-- `vec::IntoIter<'bump, T>` (explicit impls): `Send` iff `T: Send`, `Sync` iff `T: Sync` -/
theorem into_iter_send_iff : ∀ s y : Bool,
    structSend table "vec::IntoIter" (s, y) = s ∧ structSync table "vec::IntoIter" (s, y) = y := by decide +kernel

/-- public types that reach a shared arena and are nevertheless `Send` by an explicit impl of the
crate (directly or through a field).  `vec::Drain` and `string::Drain` only move memory in their
destructors; `vec::Splice` contains a `vec::Drain` and its destructor allocates from the arena:
that was finding F10 (see the probe `thread/splice-send` of the borrow family), fixed in dbc8c32 by a
`PhantomData<&'bump Bump>` field, so `Splice` is no longer `Send` and its entry excludes nothing. -/
def knownSendCarriers : List String := ["vec::Drain", "vec::Splice", "string::Drain"]

/-
FULL statement (false: the two `Drain`s are `Send`):
  ∀ d ∈ table.structs, d.isPub → sharesArena table FUEL d.self →
    ∀ s y, isSend table (d.envAll (s, y)) d.self = false
i.e. no public type through which a *shared* arena can be reached is `Send`.  The proved part
excludes the types above.
-/
open Gen.Api in
theorem shared_arena_carriers_not_send_partial :
    ∀ d ∈ table.structs, d.isPub = true → sharesArena table FUEL d.self = true →
      d.name ∉ knownSendCarriers → ∀ s y : Bool, isSend table (d.envAll (s, y)) d.self = false := by
  decide +kernel

end Bump.C05

#print axioms Bump.C05.good_sigs_generated
#print axioms Bump.C05.misuse_rejected
#print axioms Bump.C05.use_after_reset_rejected
#print axioms Bump.C05.container_use_after_reset_rejected
#print axioms Bump.C05.container_alive_across_invalidation_rejected
#print axioms Bump.C05.use_after_drop_rejected
#print axioms Bump.C05.move_while_borrowed_rejected
#print axioms Bump.C05.allocate_during_iteration_rejected
#print axioms Bump.C05.derived_use_after_invalidation_rejected
#print axioms Bump.C05.chunk_use_after_allocation_rejected
#print axioms Bump.C05.escape_by_return_rejected
#print axioms Bump.C05.many_allocations_alive_accepted
#print axioms Bump.C05.idle_arena_move_accepted
#print axioms Bump.C05.result_outlives_source_accepted
#print axioms Bump.C05.bump_send
#print axioms Bump.C05.bump_not_sync
#print axioms Bump.C05.ref_bump_not_send
#print axioms Bump.C05.containers_not_send_not_sync
#print axioms Bump.C05.box_send_iff
#print axioms Bump.C05.into_iter_send_iff
#print axioms Bump.C05.shared_arena_carriers_not_send_partial
