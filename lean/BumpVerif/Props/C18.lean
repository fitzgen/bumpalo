import BumpVerif.Proofs.Ops
/-! # C18 — requested capacity is honoured and growth is geometric (arena part) -/
namespace Bump.C18
open Bump Gen

/-- serve a list of `(size, align)` requests from one chunk on the fast path only -/
def serve (M : Nat) : Chunk → List (Nat × Nat) → Option Chunk
  | c, [] => some c
  | c, (sz, al) :: rest =>
    match allocFast M c sz al with
    | some p => serve M { c with ptr := p } rest
    | none => none

/-- Any sequence of requests whose sizes are multiples of `MIN_ALIGN`, whose alignments do not
exceed it and whose total is at most the room below the finger is served from the chunk alone
(no allocator traffic), and consumes exactly the requested bytes. -/
theorem serve_all (M : Nat) (hM : 0 < M) (hMle : M ≤ 16) :
    ∀ (reqs : List (Nat × Nat)) (c : Chunk), c.data ≤ c.ptr → c.ptr < 2 ^ 63 →
      (∀ r ∈ reqs, M ∣ r.1 ∧ r.2 ≤ M) → (reqs.map (·.1)).sum ≤ c.ptr - c.data →
      ∃ c', serve M c reqs = some c' ∧ c'.ptr = c.ptr - (reqs.map (·.1)).sum ∧ c'.data = c.data := by
  intro reqs
  induction reqs with
  | nil => intro c _ _ _ _; exact ⟨c, rfl, rfl, rfl⟩
  | cons r rest ih =>
    intro c hdp hptr hall hsum
    obtain ⟨sz, al⟩ := r
    have hr := hall (sz, al) List.mem_cons_self
    rw [List.map_cons, List.sum_cons] at hsum ⊢
    rw [serve, allocFast_exact c hM hMle hr.1 hr.2 hdp hptr (by omega)]
    obtain ⟨c', h1, h2, h3⟩ := ih { c with ptr := c.ptr - sz } (by show c.data ≤ c.ptr - sz; omega)
      (Nat.lt_of_le_of_lt (Nat.sub_le ..) hptr) (fun x hx => hall x (List.mem_cons_of_mem _ hx))
      (by show _ ≤ c.ptr - sz - c.data; omega)
    exact ⟨c', h1, h2.trans (Nat.sub_sub ..), h3⟩

/-- An arena built with capacity `cap` holds one chunk whose room below the finger is at least
`cap`; by `serve_all` it serves `cap` bytes of such requests without obtaining more memory. -/
theorem with_capacity_serves {E M cap a} (f : Bool) (s : St) (hM : IsPow2 M) (hMle : M ≤ 16) (hcap : 0 < cap)
    (hok : (newArena E M cap f s).2 = .ok a) (reqs : List (Nat × Nat))
    (hall : ∀ r ∈ reqs, M ∣ r.1 ∧ r.2 ≤ M) (hsum : (reqs.map (·.1)).sum ≤ cap) :
    ∃ c c', a.chunks = [c] ∧ serve M c reqs = some c' := by
  obtain ⟨hwf, _, _, hsh⟩ := (newArena_spec f s hM hMle).ok a hok
  rcases hsh with ⟨_, _, h0⟩ | ⟨c, refs, hc, _, hcapc, hpf, _⟩
  · omega
  · have hw := hwf.chunks c (by rw [hc]; exact List.mem_cons_self)
    have hfl := footer_add hw
    have := FS
    obtain ⟨c', h1, _, _⟩ := serve_all M hM.pos hMle reqs c hw.ptr_ge (by have := hw.ptr_le; have := hw.hi; omega) hall
      (by rw [hpf]; omega)
    exact ⟨c, c', hc, h1⟩

/-- `chunk_capacity()` never overstates: a request of exactly that many bytes with alignment at
most `MIN_ALIGN` is served by the fast path. -/
theorem capacity_sound {E a al} (hE : EnvOK E) (h : ArenaWF E a) (hal : al ≤ a.M) :
    allocFast a.M (a.cur E) (chunkCapacity a E) al = some (a.cur E).data := by
  obtain ⟨c1, _, c3, c4, _⟩ := cur_ok hE h
  have hcapM : a.M ∣ chunkCapacity a E := Nat.dvd_sub c3 (Nat.dvd_trans h.m_dvd16 (cur_al hE h).1)
  rw [allocFast_exact (a.cur E) h.m_pos h.mle hcapM hal c1 c4 (Nat.le_refl _), chunkCapacity, Nat.sub_sub_self c1]

/-- The first candidate size of the slow path is at least twice the usable size of the current
chunk and at least the request; every chunk actually created is at least as large as the
candidate it was sized from (`DetailsOK.ge_req`), candidates being halved only after a refusal. -/
theorem first_candidate_doubles {E sz al p} (s : St) (hE : EnvOK E) (h : ArenaWF E s.a) (hA : IsPow2 al)
    (hlay : sz + al ≤ 2 ^ 63) (hok : (tryAllocLayout E sz al s).2 = .ok p) :
    (tryAllocLayout E sz al s).1.a.chunks.length = s.a.chunks.length ∨
    ∃ c, (tryAllocLayout E sz al s).1.a.chunks = c :: s.a.chunks ∧ 0 < usable c ∧ sz ≤ usable c := by
  obtain ⟨sp, _⟩ := tryAllocLayout_spec s hE h hA hlay
  obtain ⟨_, _, _, _, _, refs, _, hcase⟩ := sp.ok p hok
  rcases hcase with ⟨_, hlen⟩ | ⟨c, hc, _⟩
  · exact Or.inl hlen
  · exact Or.inr ⟨c, hc, (sp.pushed hok hc).1, (sp.pushed hok hc).2.1⟩

/-- **Geometric growth.** Every chunk the slow path acquires has a usable size of at least
`max(2·usable(current chunk), request, 448) / 2^k`, where `k` counts the candidates that were
refused by the allocator, rejected by the limit or unrepresentable before it: the first candidate
doubles, and candidates are only ever halved. -/
theorem chunk_growth_geometric {E sz al p c} (f : Bool) (s : St) (hE : EnvOK E) (h : ArenaWF E s.a) (hA : IsPow2 al)
    (hlay : sz + al ≤ 2 ^ 63) (hok : (allocMaybe E f sz al s).2 = .ok p)
    (hnew : (allocMaybe E f sz al s).1.a.chunks = c :: s.a.chunks) :
    ∃ k, max (usable (s.a.cur E) * 2) (max sz DEFAULT_CHUNK_SIZE_WITHOUT_FOOTER) / 2 ^ k ≤ usable c :=
  ((allocMaybe_spec f s hE h hA hlay).pushed hok hnew).2.2.2

example : serve 8 ⟨4096, 560, 16, 4608, 512⟩ [(8, 1), (16, 8), (488, 4)] = some ⟨4096, 560, 16, 4096, 512⟩ := by decide

end Bump.C18

#print axioms Bump.C18.serve_all
#print axioms Bump.C18.with_capacity_serves
#print axioms Bump.C18.capacity_sound
#print axioms Bump.C18.first_candidate_doubles
#print axioms Bump.C18.chunk_growth_geometric
