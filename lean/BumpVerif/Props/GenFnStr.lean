import BumpVerif.Gen.FnStr
import BumpVerif.Proofs.StrRetain
import BumpVerif.Proofs.StrRange
/-!
# `src/collections/string.rs` as translated = the byte-list model (`Model/Str.lean`)

A string enters a method as `(b, b.length)` (buffer = text; capacity beyond `len` is not modelled) and is read back as
`RsS.text`.  `osim` is equality of outcomes up to the text of a `bad` diagnosis.
-/
namespace Bump.Str
open Bump Bump.RsS

def fin {α : Type} (r : SB × Outcome α) : Outcome (Bytes × α) :=
  match r with
  | (s, .ok a) => .ok (text s, a)
  | (_, .err) => .err
  | (_, .panic) => .panic
  | (_, .bad w) => .bad w
  | (_, .envBad) => .envBad

def finU (r : SB × Outcome Unit) : Outcome Bytes :=
  match r with
  | (s, .ok _) => .ok (text s)
  | (_, .err) => .err
  | (_, .panic) => .panic
  | (_, .bad w) => .bad w
  | (_, .envBad) => .envBad

def osim {α : Type} : Outcome α → Outcome α → Prop
  | .bad _, .bad _ => True
  | a, b => a = b

theorem osim_refl {α : Type} (a : Outcome α) : osim a a := by cases a <;> simp [osim]

@[simp] theorem text_full (b : Bytes) : text (b, b.length) = b := List.take_length

theorem text_append (s : SB) (t : Bytes) : text (text s ++ t, s.2 + t.length) = text s ++ t := by
  apply List.take_of_length_le
  simp only [text, List.length_append, List.length_take]
  omega

/-- a body that ends in `Ok(())` after its last call is that call -/
theorem bind_ret (x : SB × Outcome Unit) : (RsS.bind x fun s _ => (s, Outcome.ok ())) = x := by
  obtain ⟨s, o⟩ := x
  cases o <;> rfl

theorem finU_ite (c : Bool) (x : SB × Outcome Unit) (s : SB) :
    finU (if c = true then x else (s, Outcome.panic)) = if c = true then finU x else .panic := by
  cases c <;> rfl

/-- the `ch.len_utf8() == 1` arm of `push` -/
theorem encChar_len_one (c : Char) (h : (encChar c).length = 1) : encChar c = [c.toNat.toUInt8] := by
  rw [String.length_utf8EncodeChar, Char.utf8Size_eq_one_iff, UInt32.le_iff_toNat_le] at h
  exact encChar_1 c h

theorem gen_str_len (b : Bytes) : Gen.Fn.str_len (b, b.length) = ((b, b.length), .ok b.length) := rfl

theorem gen_str_is_empty (b : Bytes) : Gen.Fn.str_is_empty (b, b.length) = ((b, b.length), .ok (b.length == 0)) := rfl

theorem push_any (c : Char) (s : SB) :
    Gen.Fn.str_push c s = ((text s ++ encChar c, s.2 + (encChar c).length), .ok ()) := by
  unfold Gen.Fn.str_push
  simp only [bind_ret]
  cases hb : ((encChar c).length == 1) with
  | false => rfl
  | true =>
    have h : (encChar c).length = 1 := by simpa using hb
    simp only [if_true, RsS.push, encChar_len_one c h, List.length_cons, List.length_nil, Nat.zero_add]

theorem push_str_any (t : Bytes) (s : SB) :
    Gen.Fn.str_push_str t s = ((text s ++ t, s.2 + t.length), .ok ()) := by
  rw [Gen.Fn.str_push_str, bind_ret]; rfl

theorem finU_append (s : SB) (t : Bytes) : finU ((text s ++ t, s.2 + t.length), .ok ()) = .ok (text s ++ t) :=
  congrArg Outcome.ok (text_append s t)

theorem gen_str_push (b : Bytes) (c : Char) : finU (Gen.Fn.str_push c (b, b.length)) = .ok (push b c) := by
  rw [push_any, finU_append, text_full]; rfl

theorem gen_str_push_str (b t : Bytes) : finU (Gen.Fn.str_push_str t (b, b.length)) = .ok (pushStr b t) := by
  rw [push_str_any, finU_append, text_full]; rfl

theorem gen_str_clear (b : Bytes) : finU (Gen.Fn.str_clear (b, b.length)) = .ok (clear b) := by
  simp [Gen.Fn.str_clear, clear, RsS.truncate, RsS.bind, finU, text]

theorem gen_str_truncate (b : Bytes) (n : Nat) : finU (Gen.Fn.str_truncate n (b, b.length)) = truncate b n := by
  unfold Gen.Fn.str_truncate truncate
  by_cases h : n ≤ b.length
  · by_cases hb : isCharBoundary b n = true
    · simp [h, hb, RsS.truncate, RsS.bind, finU, text]
    · have hb' : isCharBoundary b n = false := by simpa using hb
      simp [h, hb', finU]
  · simp [h, finU]

theorem gen_str_pop (b : Bytes) :
    osim (match fin (Gen.Fn.str_pop (b, b.length)) with
          | .ok (t, r) => .ok (t, r.map Prod.fst) | .err => .err | .panic => .panic | .bad w => .bad w | .envBad => .envBad)
         (pop b) := by
  unfold Gen.Fn.str_pop pop RsS.last_char
  simp only [text_full]
  by_cases he : b = []
  · subst he; simp [RsS.bind, fin, osim, text]
  · simp only [he, if_false]
    cases hd : decodeHead (b.drop (lastStart b)) with
    | none => simp [RsS.bind, fin, osim]
    | some p =>
      obtain ⟨ch, n⟩ := p
      simp only []
      by_cases hj : lastStart b + n = b.length
      · have hn : n ≤ b.length := by omega
        simp only [osim, fin, RsS.bind, hj, if_true, hn, set_len, text, Option.map_some]
      · simp [hj, RsS.bind, fin, osim]

theorem gen_str_remove (b : Bytes) (idx : Nat) :
    osim (match fin (Gen.Fn.str_remove idx (b, b.length)) with
          | .ok (t, r) => .ok (t, r.1) | .err => .err | .panic => .panic | .bad w => .bad w | .envBad => .envBad)
         (remove b idx) := by
  unfold Gen.Fn.str_remove remove RsS.char_at
  simp only [text_full]
  by_cases hb : isCharBoundary b idx = true
  · simp only [hb, Bool.not_true, Bool.false_eq_true, if_false]
    cases hd : decodeHead (b.drop idx) with
    | none =>
      by_cases hi : idx = b.length <;> simp [hi, RsS.bind, fin, osim]
    | some p =>
      obtain ⟨ch, n⟩ := p
      simp only [RsS.bind]
      by_cases hn : idx + n > b.length
      · have : ¬ idx + n ≤ b.length := by omega
        simp [hn, this, fin, osim]
      · have h1 : idx + n ≤ b.length := by omega
        have h4 : n ≤ b.length := by omega
        simp only [osim, fin, h1, if_true, copy_within, Nat.le_add_right, Nat.add_sub_cancel_left, h4, set_len,
          text, gt_iff_lt, hn, if_false]
  · have hb' : isCharBoundary b idx = false := by simpa using hb
    simp [hb', RsS.bind, fin, osim]

/-- `h`: the callers of `insert_bytes` have asserted that `idx` is a char boundary -/
theorem gen_str_insert_bytes (b : Bytes) (idx : Nat) (bytes : Bytes) (h : idx ≤ b.length) :
    finU (Gen.Fn.str_insert_bytes idx bytes (b, b.length)) = .ok (insertBytes b idx bytes) := by
  simp [Gen.Fn.str_insert_bytes, insertBytes, RsS.reserve, RsS.copy_within, RsS.copy_in, RsS.set_len, RsS.bind, finU, text, h]

/-- `insert` and `insert_str`: the boundary assertion, then `insert_bytes` -/
theorem insert_at (b : Bytes) (idx : Nat) (bytes : Bytes) :
    finU (if isCharBoundary b idx = true then Gen.Fn.str_insert_bytes idx bytes (b, b.length) else ((b, b.length), .panic))
      = if isCharBoundary b idx = true then .ok (insertBytes b idx bytes) else .panic := by
  rw [finU_ite]
  exact ite_congr rfl (fun hb => gen_str_insert_bytes b idx bytes (isCharBoundary_le hb)) fun _ => rfl

theorem gen_str_insert (b : Bytes) (idx : Nat) (c : Char) : finU (Gen.Fn.str_insert idx c (b, b.length)) = insert b idx c := by
  simp only [Gen.Fn.str_insert, bind_ret, List.take_length]
  exact insert_at b idx (encChar c)

theorem gen_str_insert_str (b : Bytes) (idx : Nat) (t : Bytes) : finU (Gen.Fn.str_insert_str idx t (b, b.length)) = insertStr b idx t := by
  simp only [Gen.Fn.str_insert_str, bind_ret, List.take_length]
  exact insert_at b idx t

theorem gen_str_split_off (b : Bytes) (at_ : Nat) : fin (Gen.Fn.str_split_off at_ (b, b.length)) = splitOff b at_ := by
  unfold Gen.Fn.str_split_off splitOff
  by_cases hb : isCharBoundary b at_ = true
  · have hle := isCharBoundary_le hb
    simp [hb, hle, RsS.split_off, RsS.bind, fin, text]
  · have hb' : isCharBoundary b at_ = false := by simpa using hb
    simp [hb', fin]


/-- what a caller can see of `retain`: the text afterwards and whether the closure's panic unwound out of it -/
def retView (r : SB × Outcome Unit) : Outcome (Bytes × Bool) :=
  match r with
  | (s, .ok _) => .ok (text s, false)
  | (s, .panic) => .ok (text s, true)
  | (_, .bad w) => .bad w
  | (_, .err) => .err
  | (_, .envBad) => .envBad

def retOut (r : Outcome RetainOut) : Outcome (Bytes × Bool) :=
  match r with
  | .ok o => .ok (o.bytes, o.panicked)
  | .panic => .panic
  | .bad w => .bad w
  | .err => .err
  | .envBad => .envBad

theorem gen_guard_drop (buf : Bytes) (len idx del : Nat) (h1 : del ≤ idx) (h2 : idx - del ≤ len) :
    Gen.Fn.str_retain_guard_drop idx del (buf, len) = ((buf, idx - del), .ok ()) := by
  simp [Gen.Fn.str_retain_guard_drop, h1, h2, RsS.set_len, RsS.bind]

/-- one iteration of the translated loop while `del_bytes ≤ idx ≤ len` (the subtractions do not wrap, the guard's
destructor stores `idx - del_bytes`): the shape of `retainLoop_succ` -/
theorem gen_retain_succ (ans : Nat → Bool) (panicAt : Option Nat) (len fuel calls del idx : Nat) (buf : Bytes)
    (h1 : del ≤ idx) (h2 : idx ≤ len) :
    Gen.Fn.str_retain.loop ans panicAt len (fuel + 1) calls del idx (buf, len) =
      if idx < len then
        match decodeHead (buf.drop idx) with
        | none => ((buf, len), .bad "retain: text is not UTF-8")
        | some (_, n) =>
          if idx + n > len then ((buf, len), .bad "retain: char runs past len") else
          if panicAt = some calls then ((buf, idx - del), .panic)
          else if !(ans calls) then Gen.Fn.str_retain.loop ans panicAt len fuel (calls + 1) (del + n) (idx + n) (buf, len)
          else if del > 0 then
            Gen.Fn.str_retain.loop ans panicAt len fuel (calls + 1) del (idx + n) (copyWithin buf idx (idx - del) n, len)
          else Gen.Fn.str_retain.loop ans panicAt len fuel (calls + 1) del (idx + n) (buf, len)
      else ((buf, idx - del), .ok ()) := by
  have hg := gen_guard_drop buf len idx del h1 (by omega)
  rw [Gen.Fn.str_retain.loop]
  by_cases hlt : idx < len
  · simp only [hlt, decide_true, if_true, RsS.char_unchecked]
    cases decodeHead (buf.drop idx) with
    | none => rfl
    | some p =>
      obtain ⟨ch, n⟩ := p
      by_cases hpast : idx + n > len
      · simp only [hpast, if_true, RsS.bind]
      · simp only [hpast, if_false, RsS.bind, hg, RsS.stateOf, decide_eq_true_eq, h1, if_true, RsS.copy_within]
  · simp only [hlt, decide_false, Bool.false_eq_true, if_false, hg, bind_ret]

theorem gen_retain_loop (ans : Nat → Bool) (panicAt : Option Nat) (len : Nat) :
    ∀ (fuel : Nat) (buf : Bytes) (idx del calls : Nat), buf.length = len → del ≤ idx → idx ≤ len → len - idx < fuel →
      osim (retView (Gen.Fn.str_retain.loop ans panicAt len fuel calls del idx (buf, len)))
           (retOut (retainLoop true ans panicAt len fuel ⟨buf, idx, del, calls⟩)) := by
  intro fuel
  induction fuel with
  | zero => intro buf idx del calls _ _ _ h; omega
  | succ fuel ih =>
    intro buf idx del calls hlen hdi hil hf
    rw [retainLoop_succ, gen_retain_succ _ _ _ _ _ _ _ _ hdi hil]
    by_cases hlt : idx < len
    · rw [if_pos hlt, if_pos hlt]
      cases hdh : decodeHead (buf.drop idx) with
      | none => trivial
      | some p =>
        obtain ⟨ch, n⟩ := p
        have hn : 0 < n := by rw [(decodeHead_some hdh).2]; exact encChar_length_pos ch
        show osim (retView (if idx + n > len then _ else _)) (retOut (if idx + n > len then _ else _))
        by_cases hpast : idx + n > len
        · rw [if_pos hpast, if_pos hpast]; trivial
        · rw [if_neg hpast, if_neg hpast]
          have e1 : idx + n ≤ len := Nat.le_of_not_lt hpast
          have e2 : len - (idx + n) < fuel := by omega
          have e3 : del ≤ idx + n := Nat.le_trans hdi (Nat.le_add_right idx n)
          by_cases hp : panicAt = some calls
          · rw [if_pos hp, if_pos hp]; exact osim_refl _
          · rw [if_neg hp, if_neg hp]
            cases ans calls with
            | false => exact ih buf (idx + n) (del + n) (calls + 1) hlen (Nat.add_le_add_right hdi n) e1 e2
            | true =>
              show osim (retView (if del > 0 then _ else _)) (retOut (if del > 0 then _ else _))
              by_cases hdel : del > 0
              · rw [if_pos hdel, if_pos hdel]
                exact ih _ (idx + n) del (calls + 1)
                  (by rw [copyWithin_len buf idx (idx - del) n (hlen ▸ e1) (Nat.sub_le idx del)]; exact hlen) e3 e1 e2
              · rw [if_neg hdel, if_neg hdel]
                exact ih buf (idx + n) del (calls + 1) hlen e3 e1 e2
    · have hidx : idx = len := by omega
      subst hidx
      rw [if_neg hlt, if_neg hlt]
      by_cases hdel : del > 0
      · rw [if_pos hdel]; exact osim_refl _
      · have : del = 0 := by omega
        subst this
        rw [if_neg hdel, Nat.sub_zero, retView, text, ← hlen, List.take_length]; exact osim_refl _

/-- `retainWith true`: the version with the unwind guard -/
theorem gen_str_retain (b : Bytes) (ans : Nat → Bool) (panicAt : Option Nat) :
    osim (retView (Gen.Fn.str_retain ans panicAt (b, b.length))) (retOut (retainWith true b ans panicAt)) :=
  gen_retain_loop ans panicAt b.length (b.length + 1) b 0 0 0 rfl (Nat.le_refl 0) (Nat.zero_le _) (by omega)

/-- … and of the model's `retain`, whose guard flag is regenerated from the source -/
theorem gen_str_retain_model (b : Bytes) (ans : Nat → Bool) (panicAt : Option Nat) (hflag : Gen.STR_RETAIN_GUARD = 1) :
    osim (retView (Gen.Fn.str_retain ans panicAt (b, b.length))) (retOut (retain b ans panicAt)) := by
  have : retain b ans panicAt = retainWith true b ans panicAt := by simp [retain, hflag]
  rw [this]; exact gen_str_retain b ans panicAt


theorem drain_end (b : Bytes) (st : Nat) (eb : Bd) :
    (match eb with
      | .incl n =>
        (match checkedAdd n 1 with
          | some x => (RsS.bind (RsS.slice_check st x (b, b.length)) fun s _ => (s, Outcome.ok (st, x)))
          | none => ((b, b.length), Outcome.panic))
      | .excl n => (RsS.bind (RsS.slice_check st n (b, b.length)) fun s _ => (s, Outcome.ok (st, n)))
      | .unbounded => (RsS.bind (RsS.slice_check st b.length (b, b.length)) fun s _ => (s, Outcome.ok (st, b.length)))) =
      (match rangeEnd true b.length eb with
       | .ok en => if sliceOk b st en then ((b, b.length), .ok (st, en)) else ((b, b.length), .panic)
       | _ => ((b, b.length), .panic)) := by
  have hs : ∀ en : Nat, RsS.bind (RsS.slice_check st en (b, b.length)) (fun s _ => (s, Outcome.ok (st, en))) =
      if sliceOk b st en then ((b, b.length), .ok (st, en)) else ((b, b.length), .panic) := by
    intro en
    by_cases h : sliceOk b st en = true <;> simp [RsS.slice_check, RsS.bind, h]
  cases eb with
  | unbounded => simp only [rangeEnd, hs]
  | excl m => simp only [rangeEnd, hs]
  | incl m =>
    simp only [rangeEnd, addOne, checkedAdd]
    by_cases h : m + 1 < USIZE
    · simp only [h, if_true, hs]
    · simp [h]

theorem gen_str_drain (b : Bytes) (sb eb : Bd) :
    Gen.Fn.str_drain (sb, eb) (b, b.length) =
      match rangeStart true sb with
      | .ok st =>
        (match rangeEnd true b.length eb with
         | .ok en => if sliceOk b st en then ((b, b.length), .ok (st, en)) else ((b, b.length), .panic)
         | _ => ((b, b.length), .panic))
      | _ => ((b, b.length), .panic) := by
  unfold Gen.Fn.str_drain
  cases sb with
  | unbounded => exact drain_end b 0 eb
  | incl n => exact drain_end b n eb
  | excl n =>
    simp only [rangeStart, addOne, checkedAdd]
    by_cases hn : n + 1 < USIZE
    · simp only [hn, if_true]; exact drain_end b (n + 1) eb
    · simp [hn]

/-- `Drop for Drain`: the range is removed through `Vec::drain` when it is (still) inside the string -/
theorem gen_str_drain_drop (b : Bytes) (st en : Nat) :
    finU (Gen.Fn.str_drain_drop st en (b, b.length)) = .ok (if st ≤ en ∧ en ≤ b.length then b.take st ++ b.drop en else b) := by
  unfold Gen.Fn.str_drain_drop
  simp only [Bool.and_eq_true, decide_eq_true_eq, bind_ret, RsS.vec_drain, text_full]
  by_cases h : st ≤ en ∧ en ≤ b.length
  · simp only [h, and_self, if_true, finU, text]
    rw [List.take_of_length_le]
    simp only [List.length_append, List.length_take, List.length_drop]
    omega
  · simp only [h, if_false, finU, text_full]


theorem splice_fin (ovf : Bool) (b : Bytes) (sb eb : Bd) (t : Bytes) :
    finU (RsS.vec_splice ovf (sb, eb) t (b, b.length)) = spliceBytes (vecDrainOvf ovf) b sb eb t := by
  unfold RsS.vec_splice
  simp only [text_full]
  rcases spliceBytes_cases (vecDrainOvf ovf) b sb eb t with h | ⟨r, h⟩
  · rw [h]; rfl
  · rw [h]; simp only [finU, text_full]

/-- an `assert!` in front of `X`, against the model's assertion in front of what `X` leaves -/
theorem finU_assert (c : Bool) (X : SB × Outcome Unit) (s0 : SB) (R : Outcome Bytes) (h : finU X = R) :
    finU (if c = true then X else (s0, .panic)) =
      match (if c = true then Outcome.ok () else .panic) with
      | .ok () => R
      | _ => .panic := by
  cases c
  · rfl
  · exact h

theorem replace_end (b : Bytes) (eb : Bd) (X : SB × Outcome Unit) (R : Outcome Bytes) (hs : finU X = R) (s0 : SB) :
    finU (match eb with
        | .incl n => (match checkedAdd n 1 with
          | some x => (if isCharBoundary b x = true then X else (s0, Outcome.panic))
          | none => (s0, Outcome.panic))
        | .excl n => (if isCharBoundary b n = true then X else (s0, Outcome.panic))
        | .unbounded => X) =
      (match endAssert true b eb with
       | .ok () => R
       | _ => .panic) := by
  cases eb with
  | unbounded => exact hs
  | incl m =>
    simp only [endAssert, addOne, checkedAdd]
    by_cases h : m + 1 < USIZE
    · simp only [h, if_true]; exact finU_assert _ _ _ _ hs
    · simp [h, finU]
  | excl m => exact finU_assert _ _ _ _ hs

/-- `String::replace_range` as translated: both boundary assertions with a checked `n + 1`, then the splice of the byte
vector (whose own `n + 1` is `Vec::drain`'s) -/
theorem gen_str_replace_range (ovf : Bool) (b : Bytes) (sb eb : Bd) (t : Bytes) :
    finU (Gen.Fn.str_replace_range ovf (sb, eb) t (b, b.length)) = replaceRangeWith true (vecDrainOvf ovf) b sb eb t := by
  have hend := replace_end b eb _ _ (splice_fin ovf b sb eb t) (b, b.length)
  unfold Gen.Fn.str_replace_range replaceRangeWith
  simp only [List.take_length, bind_ret]
  cases sb with
  | unbounded => exact hend
  | incl n => exact finU_assert _ _ _ _ hend
  | excl n =>
    simp only [startAssert, addOne, checkedAdd]
    by_cases hn : n + 1 < USIZE
    · simp only [hn, if_true]; exact finU_assert _ _ _ _ hend
    · simp [hn, finU]

/-- … and of the model's `replaceRange`, whose "is `n + 1` checked" flag is regenerated from the source -/
theorem gen_str_replace_range_model (ovf : Bool) (b : Bytes) (sb eb : Bd) (t : Bytes) (hflag : Gen.STR_REPLACE_RANGE_END_CHECKED = 1) :
    finU (Gen.Fn.str_replace_range ovf (sb, eb) t (b, b.length)) = replaceRange ovf b sb eb t := by
  have : replaceOvf ovf = true := by simp [replaceOvf, hflag]
  rw [replaceRange, this]; exact gen_str_replace_range ovf b sb eb t


/-- a loop that appends `enc x` to the text for each item `x`, given by its two equations: all six loops of the `Extend`
impls and of `from_iter_in` are of this form (`enc` the character's encoding, or the item's text) -/
theorem push_loop_fin {α : Type} (enc : α → Bytes) (loop : List α → SB → SB × Outcome Unit)
    (hnil : ∀ s, loop [] s = (s, .ok ()))
    (hcons : ∀ x xs s, loop (x :: xs) s = loop xs (text s ++ enc x, s.2 + (enc x).length)) (xs : List α) :
    ∀ s : SB, finU (loop xs s) = .ok (xs.foldl (fun t x => t ++ enc x) (text s)) := by
  induction xs with
  | nil => intro s; rw [hnil]; rfl
  | cons x xs ih => intro s; rw [hcons, ih, text_append]; rfl

theorem chars_loop_fin (loop : List Char → SB → SB × Outcome Unit) (hnil : ∀ s, loop [] s = (s, .ok ()))
    (hcons : ∀ c cs s, loop (c :: cs) s = RsS.bind (Gen.Fn.str_push c s) fun s _ => loop cs s) (cs : List Char) (s : SB) :
    finU (loop cs s) = .ok (cs.foldl push (text s)) :=
  push_loop_fin encChar loop hnil (fun c cs s => by rw [hcons, push_any]; rfl) cs s

theorem strs_loop_fin (loop : List Bytes → SB → SB × Outcome Unit) (hnil : ∀ s, loop [] s = (s, .ok ()))
    (hcons : ∀ t ts s, loop (t :: ts) s = RsS.bind (Gen.Fn.str_push_str t s) fun s _ => loop ts s) (ts : List Bytes) (b : Bytes) :
    finU (RsS.bind (loop ts (b, b.length)) fun s _ => (s, Outcome.ok ())) = .ok (ts.foldl pushStr b) := by
  rw [bind_ret, push_loop_fin id loop hnil (fun t ts s => by rw [hcons, push_str_any]; rfl), text_full]; rfl

/-- `Extend<char>`: whatever lower bound the iterator reports, the characters are pushed in order -/
theorem gen_str_extend_chars (b : Bytes) (cs : List Char) (hint : Nat) :
    finU (Gen.Fn.str_extend_chars cs hint (b, b.length)) = .ok (extendChars b cs) := by
  simp only [Gen.Fn.str_extend_chars, bind_ret]
  simp only [RsS.reserve, RsS.bind, text_full]
  rw [chars_loop_fin _ (fun _ => rfl) (fun _ _ _ => rfl), text, List.take_left' rfl]; rfl

theorem gen_str_extend_char_refs (b : Bytes) (cs : List Char) (hint : Nat) :
    finU (Gen.Fn.str_extend_char_refs cs hint (b, b.length)) = .ok (extendChars b cs) := by
  rw [Gen.Fn.str_extend_char_refs, bind_ret]; exact gen_str_extend_chars b cs hint

theorem gen_str_from_iter_in (cs : List Char) (s0 : SB) :
    finU (Gen.Fn.str_from_iter_in cs s0) = .ok (fromIter cs) := by
  simp only [Gen.Fn.str_from_iter_in, bind_ret]
  exact chars_loop_fin _ (fun _ => rfl) (fun _ _ _ => rfl) cs ([], 0)

theorem gen_str_extend_strs (b : Bytes) (ts : List Bytes) :
    finU (Gen.Fn.str_extend_strs ts (b, b.length)) = .ok (ts.foldl pushStr b) :=
  strs_loop_fin _ (fun _ => rfl) (fun _ _ _ => rfl) ts b

/-- `Extend<String<'bump>>`, `Extend<std String>`, `Extend<Cow<str>>` -/
theorem gen_str_extend_bstrings (b : Bytes) (ts : List Bytes) :
    finU (Gen.Fn.str_extend_bstrings ts (b, b.length)) = .ok (ts.foldl pushStr b) :=
  strs_loop_fin _ (fun _ => rfl) (fun _ _ _ => rfl) ts b

theorem gen_str_extend_strings (b : Bytes) (ts : List Bytes) :
    finU (Gen.Fn.str_extend_strings ts (b, b.length)) = .ok (ts.foldl pushStr b) :=
  strs_loop_fin _ (fun _ => rfl) (fun _ _ _ => rfl) ts b

theorem gen_str_extend_cows (b : Bytes) (ts : List Bytes) :
    finU (Gen.Fn.str_extend_cows ts (b, b.length)) = .ok (ts.foldl pushStr b) :=
  strs_loop_fin _ (fun _ => rfl) (fun _ _ _ => rfl) ts b

theorem gen_str_clone_from (src : Bytes) (s : SB) :
    finU (Gen.Fn.str_clone_from src s) = .ok (clone src) := by
  simp [Gen.Fn.str_clone_from, RsS.vec_clone_from, RsS.bind, finU, clone, text]

#print axioms gen_str_extend_bstrings
#print axioms gen_str_extend_strings
#print axioms gen_str_extend_cows
#print axioms gen_str_extend_char_refs
#print axioms gen_str_clone_from

theorem gen_str_from_str_in (t : Bytes) (s0 : SB) : finU (Gen.Fn.str_from_str_in t s0) = .ok t := by
  unfold Gen.Fn.str_from_str_in
  simp [RsS.reserve, RsS.copy_in, RsS.set_len, RsS.bind, finU, text]

theorem gen_str_add (b t : Bytes) : finU (Gen.Fn.str_add t (b, b.length)) = .ok (pushStr b t) := gen_str_push_str b t
theorem gen_str_add_assign (b t : Bytes) : finU (Gen.Fn.str_add_assign t (b, b.length)) = .ok (pushStr b t) := gen_str_push_str b t
theorem gen_str_write_str (b t : Bytes) : finU (Gen.Fn.str_write_str t (b, b.length)) = .ok (pushStr b t) := gen_str_push_str b t
theorem gen_str_write_char (b : Bytes) (c : Char) : finU (Gen.Fn.str_write_char c (b, b.length)) = .ok (push b c) := by
  rw [Gen.Fn.str_write_char, bind_ret]; exact gen_str_push b c


theorem u16_loop_some (c : Char) (rest : List (Option Char)) (s : SB) :
    Gen.Fn.str_from_utf16_in.loop (some c :: rest) s =
      Gen.Fn.str_from_utf16_in.loop rest (text s ++ encChar c, s.2 + (encChar c).length) := by
  rw [Gen.Fn.str_from_utf16_in.loop, push_any]; rfl

theorem dec16_nil (f : Nat) : RsS.decodeUtf16Fuel f [] = [] := by cases f <;> rfl
theorem from16_nil (f : Nat) (acc : Bytes) : fromUtf16Fuel f [] acc = .ok acc := by cases f <;> rfl

def u16View (r : SB × Outcome Unit) : Outcome Bytes :=
  match r with
  | (s', .ok _) => .ok (text s')
  | (_, .err) => .err
  | (_, .panic) => .panic
  | (_, .bad w) => .bad w
  | (_, .envBad) => .envBad

theorem from_utf16_loop : ∀ (f : Nat) (us : List Nat) (s : SB), us.length ≤ f →
    u16View (Gen.Fn.str_from_utf16_in.loop (RsS.decodeUtf16Fuel f us) s) = fromUtf16Fuel f us (text s) := by
  intro f
  induction f with
  | zero =>
    intro us s hl
    have : us = [] := List.eq_nil_of_length_eq_zero (by omega)
    subst this; rfl
  | succ f ih =>
    intro us s hl
    have hsome : ∀ (c : Char) (us' : List Nat), us'.length ≤ f →
        u16View (Gen.Fn.str_from_utf16_in.loop (some c :: RsS.decodeUtf16Fuel f us') s)
          = fromUtf16Fuel f us' (push (text s) c) := fun c us' h => by
      rw [u16_loop_some]; exact (ih us' _ h).trans (congrArg _ (text_append _ _))
    cases us with
    | nil => rfl
    | cons u us =>
      have hl' : us.length ≤ f := by simpa using hl
      unfold RsS.decodeUtf16Fuel fromUtf16Fuel
      cases isSurrogate u with
      | false => exact hsome _ us hl'
      | true =>
        simp only [Bool.not_true, Bool.false_eq_true, if_false]
        by_cases h2 : u ≥ 0xDC00
        · rw [if_pos h2, if_pos h2]; rfl
        · rw [if_neg h2, if_neg h2]
          cases us with
          | nil => rfl
          | cons u2 us' =>
            simp only []
            cases isLow u2 with
            | true => exact hsome _ us' (by simp at hl'; omega)
            | false => rfl

theorem gen_str_from_utf16_in (us : List Nat) (s0 : SB) :
    u16View (Gen.Fn.str_from_utf16_in us s0) = fromUtf16 us := by
  unfold Gen.Fn.str_from_utf16_in fromUtf16 RsS.decode_utf16
  simp only [RsS.reserve, RsS.bind]
  have := from_utf16_loop us.length us (text (([] : Bytes), 0) ++ List.replicate us.length 0, 0) (Nat.le_refl _)
  simpa [text] using this

#print axioms gen_str_drain
#print axioms gen_str_from_utf16_in
#print axioms gen_str_extend_chars
#print axioms gen_str_extend_strs
#print axioms gen_str_from_iter_in
#print axioms gen_str_from_str_in
#print axioms gen_str_replace_range
#print axioms gen_str_drain_drop
#print axioms gen_str_retain
#print axioms gen_str_push
#print axioms gen_str_push_str
#print axioms gen_str_clear
#print axioms gen_str_truncate
#print axioms gen_str_pop
#print axioms gen_str_remove
#print axioms gen_str_insert_bytes
#print axioms gen_str_insert
#print axioms gen_str_insert_str
#print axioms gen_str_split_off

end Bump.Str
