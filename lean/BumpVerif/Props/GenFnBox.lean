import BumpVerif.Gen.FnBox
import BumpVerif.Proofs.Box
/-!
# `src/boxed.rs` (and `Vec::into_boxed_slice`) as translated = the step sequences of `Model/Box.lean`

Each function of the model was written by hand as "the source's sequence of primitive steps" (disarm the handle, take
the pointer, read, end of scope); here the same sequences are regenerated from the source and proved equal to them, for
every injected destructor panic `pa` (a disarmed handle never runs a destructor, whatever `pa` is).
-/
namespace Bump.Bx
open Bump Bump.RsB

theorem scopeEnd_disarmed {β : Type} (pa : Option Nat) (f : Frame) (fx : Fx) (k : Fx → Fx × Outcome β) (h : f.disarmed = true) :
    RsB.scopeEnd pa f fx k = k fx := by
  simp [RsB.scopeEnd, Frame.scopeEnd, h]

theorem gen_box_into_raw (pa : Option Nat) (b : List Cell) (fx : Fx) :
    Gen.Fn.box_into_raw pa b fx = ((intoRaw b fx).2, .ok (intoRaw b fx).1) := by
  simp [Gen.Fn.box_into_raw, scopeEnd_disarmed, Frame.manuallyDrop, Frame.arg]

theorem gen_box_from_raw (pa : Option Nat) (p : List Cell) (fx : Fx) :
    Gen.Fn.box_from_raw pa p fx = (fx, .ok (fromRaw p)) := rfl

theorem gen_box_into_inner (pa : Option Nat) (b : List Cell) (fx : Fx) :
    Gen.Fn.box_into_inner pa b fx = ((intoInner b fx).2, .ok (intoInner b fx).1) := by
  simp [Gen.Fn.box_into_inner, gen_box_into_raw, RsB.bind, ptrRead, Frame.arg]

theorem gen_box_leak (pa : Option Nat) (b : List Cell) (fx : Fx) :
    Gen.Fn.box_leak pa b fx = ((leak b fx).2, .ok (leak b fx).1) := by
  simp [Gen.Fn.box_leak, gen_box_into_raw, RsB.bind, Frame.arg]

/-- `impl Drop for Box`: the pointee's drop glue; `panic` = a destructor unwound -/
theorem gen_box_drop (pa : Option Nat) (b : List Cell) (fx : Fx) :
    Gen.Fn.box_drop pa b fx = ((boxDrop b pa fx).2, if (boxDrop b pa fx).1 then .panic else .ok ()) := by
  simp only [Gen.Fn.box_drop, boxDrop_eq, dropGlue_eq, Bool.false_or, Nat.zero_le, true_and, Nat.zero_add]
  exact (apply_ite (Prod.mk _) _ _ _).symm

theorem gen_box_downcast (pa : Option Nat) (tag target : Nat) (b : List Cell) (fx : Fx) :
    Gen.Fn.box_downcast pa tag target b fx =
      ((downcast tag target b fx).2.2,
        .ok (if (downcast tag target b fx).1 then .ok (downcast tag target b fx).2.1 else .error (downcast tag target b fx).2.1)) := by
  unfold Gen.Fn.box_downcast downcast
  by_cases h : (tag == target) = true
  · simp [h, gen_box_into_raw, gen_box_from_raw, RsB.bind, Frame.arg]
  · simp [h, Frame.arg]

theorem gen_box_arr_to_slice (pa : Option Nat) (a : List Cell) (fx : Fx) :
    Gen.Fn.box_arr_to_slice pa a.length a fx = ((arrToSlice a fx).2, .ok (arrToSlice a fx).1) := by
  simp [Gen.Fn.box_arr_to_slice, gen_box_from_raw, RsB.bind, scopeEnd_disarmed, Frame.manuallyDrop, Frame.arg, fromRaw]

theorem gen_box_slice_to_arr (pa : Option Nat) (n : Nat) (s : List Cell) (fx : Fx) :
    Gen.Fn.box_slice_to_arr pa n s fx =
      ((sliceToArr n s fx).2.2,
        .ok (if (sliceToArr n s fx).1 then .ok (sliceToArr n s fx).2.1 else .error (sliceToArr n s fx).2.1)) := by
  unfold Gen.Fn.box_slice_to_arr sliceToArr
  by_cases h : (s.length == n) = true
  · simp [h, gen_box_from_raw, RsB.bind, scopeEnd_disarmed, Frame.manuallyDrop, Frame.arg, Frame.scopeEnd]
  · simp [h, Frame.arg]

theorem gen_vec_into_boxed_slice (pa : Option Nat) (v : List Cell) (fx : Fx) :
    Gen.Fn.vec_into_boxed_slice pa v fx = ((intoBoxedSlice v fx).2, .ok (intoBoxedSlice v fx).1) := by
  simp [Gen.Fn.vec_into_boxed_slice, gen_box_from_raw, RsB.bind, scopeEnd_disarmed, Frame.manuallyDrop, Frame.arg, fromRaw]

/-- `Box<dyn Any + Send>::downcast` is the same function as the `dyn Any` one: a failed downcast hands the same box back
(nothing dropped, nothing moved), a successful one re-wraps the same cells -/
theorem gen_box_downcast_send (pa : Option Nat) (tag target : Nat) (b : List Cell) (fx : Fx) :
    Gen.Fn.box_downcast_send pa tag target b fx = Gen.Fn.box_downcast pa tag target b fx := rfl

theorem gen_box_downcast_send_model (pa : Option Nat) (tag target : Nat) (b : List Cell) (fx : Fx) :
    Gen.Fn.box_downcast_send pa tag target b fx =
      ((downcast tag target b fx).2.2,
        .ok (if (downcast tag target b fx).1 then .ok (downcast tag target b fx).2.1 else .error (downcast tag target b fx).2.1)) := by
  rw [gen_box_downcast_send, gen_box_downcast]

theorem gen_box_pin_from (pa : Option Nat) (b : List Cell) (fx : Fx) :
    Gen.Fn.box_pin_from pa b fx = (fx, .ok b) := rfl

theorem gen_box_new_in (pa : Option Nat) (x : List Cell) (fx : Fx) :
    Gen.Fn.box_new_in pa x fx = (fx, .ok x) := rfl

theorem gen_box_pin_in (pa : Option Nat) (x : List Cell) (fx : Fx) :
    Gen.Fn.box_pin_in pa x fx = (fx, .ok x) := rfl

theorem gen_box_from_iter_in (pa : Option Nat) (items : List Cell) (fx : Fx) :
    Gen.Fn.box_from_iter_in pa items fx = ((fromIterIn items fx).2, .ok (fromIterIn items fx).1) := by
  simp [Gen.Fn.box_from_iter_in, gen_vec_into_boxed_slice, RsB.bind, RsB.vecExtend, Frame.arg]

/-- `From<Vec<T>> for Box<[T]>` is `into_boxed_slice` -/
theorem gen_vec_into_box_from (pa : Option Nat) (v : List Cell) (fx : Fx) :
    Gen.Fn.vec_into_box_from pa v fx = ((intoBoxedSlice v fx).2, .ok (intoBoxedSlice v fx).1) := by
  simp [Gen.Fn.vec_into_box_from, gen_vec_into_boxed_slice, RsB.bind, Frame.arg]

/-- `mem::forget(self)`: the elements now live as long as the arena and are never dropped -/
theorem gen_vec_into_bump_slice (pa : Option Nat) (v : List Cell) (fx : Fx) :
    Gen.Fn.vec_into_bump_slice pa v fx = (fx, .ok v) := by
  simp [Gen.Fn.vec_into_bump_slice, scopeEnd_disarmed, Frame.manuallyDrop, Frame.arg]

theorem gen_vec_into_bump_slice_mut (pa : Option Nat) (v : List Cell) (fx : Fx) :
    Gen.Fn.vec_into_bump_slice_mut pa v fx = (fx, .ok v) := by
  simp [Gen.Fn.vec_into_bump_slice_mut, scopeEnd_disarmed, Frame.manuallyDrop, Frame.arg]

/-- `Drop for Vec`: the drop glue of the `len` initialised elements, front to back — what the model's frame does when a
vector handle goes out of scope armed -/
theorem gen_vec_drop (pa : Option Nat) (v : List Cell) (fx : Fx) :
    Gen.Fn.vec_drop pa v fx = ((boxDrop v pa fx).2, if (boxDrop v pa fx).1 then .panic else .ok ()) := by
  simp only [Gen.Fn.vec_drop, List.take_length, boxDrop_eq, dropGlue_eq, Bool.false_or, Nat.zero_le, true_and, Nat.zero_add]
  exact (apply_ite (Prod.mk _) _ _ _).symm

#print axioms gen_vec_into_box_from
#print axioms gen_vec_into_bump_slice
#print axioms gen_vec_into_bump_slice_mut
#print axioms gen_vec_drop
#print axioms gen_box_downcast_send_model
#print axioms gen_box_pin_from
#print axioms gen_box_new_in
#print axioms gen_box_pin_in
#print axioms gen_box_from_iter_in
#print axioms gen_box_into_raw
#print axioms gen_box_from_raw
#print axioms gen_box_into_inner
#print axioms gen_box_leak
#print axioms gen_box_drop
#print axioms gen_box_downcast
#print axioms gen_box_arr_to_slice
#print axioms gen_box_slice_to_arr
#print axioms gen_vec_into_boxed_slice

end Bump.Bx
