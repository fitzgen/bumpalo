import BumpVerif.Gen.FnChunks
import BumpVerif.Props.GenFnIter
/-!
# The chunk-list walkers of `src/lib.rs` as translated = their specifications

* `dealloc_chunk_list` (the `while` loop over `prev` links) frees exactly the chunks of the chain, newest first, each with the
  layout it was obtained with: it *is* `Rs.dealloc_chunk_list`, the primitive `reset`'s translation calls;
* `Drop for Bump` emits exactly the events of the model's `dropArena`;
* `allocated_bytes_including_metadata` (`iter_allocated_chunks_raw().count() * size_of::<ChunkFooter>() + allocated_bytes()`)
  is the model's `allocatedBytesIncludingMetadata` on every arena whose chunk list is iterable (`IterOK`, which `ArenaWF`
  implies) and whose total fits a `usize`.
-/
namespace Bump
open Rs Gen

theorem dealloc_loop (E M : Nat) : ∀ (chain : List Chunk) (fuel : Nat) (s : St),
    (∀ c ∈ chain, c.footer ≠ E) → chain.length < fuel →
    Gen.Fn.dealloc_chunk_list.loop E M fuel chain s = ({ s with evs := s.evs ++ chain.map freeEv }, .ok ()) := by
  intro chain
  induction chain with
  | nil =>
    intro fuel s _ hf
    cases fuel with
    | zero => omega
    | succ fuel =>
      simp [Gen.Fn.dealloc_chunk_list.loop, Gen.Fn.is_empty, bindO, chain_head]
  | cons c rest ih =>
    intro fuel s hne hf
    cases fuel with
    | zero => simp at hf
    | succ fuel =>
      have hc : c.footer ≠ E := hne c (by simp)
      have hb : (c.footer == (emptyChunk E).footer) = false := by simpa [emptyChunk_footer] using hc
      unfold Gen.Fn.dealloc_chunk_list.loop
      simp only [Gen.Fn.is_empty, bindO, chain_head, List.headD_cons, hb, Bool.not_false, if_true, global_dealloc, List.tail_cons]
      rw [ih fuel _ (fun q hq => hne q (List.mem_cons_of_mem _ hq)) (by simpa using hf)]
      simp [freeEv, List.append_assoc]

theorem gen_dealloc_chunk_list (E M : Nat) (chain : List Chunk) (s : St) (hne : ∀ c ∈ chain, c.footer ≠ E) :
    Gen.Fn.dealloc_chunk_list E M chain s = Rs.dealloc_chunk_list chain s := by
  unfold Gen.Fn.dealloc_chunk_list Rs.dealloc_chunk_list
  exact dealloc_loop E M chain _ s hne (by omega)

/-- the model's `dropArena`, in addition, forgets the list: the arena no longer exists -/
theorem gen_bump_drop (E M : Nat) (s : St) (hok : IterOK E s.a.chunks) :
    (Gen.Fn.bump_drop E M s).2 = .ok () ∧ (Gen.Fn.bump_drop E M s).1.evs = (dropArena s).evs ∧
      (Gen.Fn.bump_drop E M s).1.a = s.a := by
  unfold Gen.Fn.bump_drop
  rw [gen_dealloc_chunk_list E M _ s hok.notStatic]
  simp [Rs.dealloc_chunk_list, bindO, dropArena]

theorem count_suffix (E M : Nat) (s : St) (pre suf : List Chunk) (hs : s.a.chunks = pre ++ suf)
    (hok : IterOK E (pre ++ suf)) (n fuel : Nat) (hf : suf.length < fuel) :
    Gen.Fn.chunk_raw_iter_count E M s fuel (suf.headD (emptyChunk E)) n = .ok (n + suf.length) := by
  induction suf generalizing pre n fuel with
  | nil =>
    cases fuel with
    | zero => simp at hf
    | succ fuel =>
      show Gen.Fn.chunk_raw_iter_count E M s (fuel + 1) (emptyChunk E) n = _
      unfold Gen.Fn.chunk_raw_iter_count
      rw [next_static]
      rfl
  | cons c rest ih =>
    cases fuel with
    | zero => simp at hf
    | succ fuel =>
      have hih := ih (pre ++ [c]) (by simp [hs]) (by simpa using hok) (n + 1) fuel (by simpa using hf)
      show Gen.Fn.chunk_raw_iter_count E M s (fuel + 1) c n = _
      unfold Gen.Fn.chunk_raw_iter_count
      rw [next_chunk E M s pre c rest hs hok]
      simp only [bindP, hih, List.length_cons]
      congr 1; omega

theorem gen_chunk_count (E M : Nat) (s : St) (hok : IterOK E s.a.chunks) :
    Gen.Fn.chunk_raw_iter_count E M s (s.a.chunks.length + 1) (s.a.cur E) 0 = .ok s.a.chunks.length := by
  have := count_suffix E M s [] s.a.chunks (by simp) (by simpa using hok) 0 (s.a.chunks.length + 1) (by omega)
  simpa [Arena.cur] using this

theorem gen_allocated_bytes_including_metadata (E M : Nat) (s : St) (hok : IterOK E s.a.chunks)
    (hfit : allocatedBytesIncludingMetadata s.a E < USIZE) :
    Gen.Fn.allocated_bytes_including_metadata E M s = (s, .ok (allocatedBytesIncludingMetadata s.a E)) := by
  unfold allocatedBytesIncludingMetadata Arena.allocatedBytes at *
  have h1 : s.a.chunks.length * Gen.FOOTER_SIZE < USIZE := by
    have : Gen.FOOTER_SIZE = FOOTER_SIZE := rfl
    omega
  have h2 : (s.a.cur E).ab + s.a.chunks.length * Gen.FOOTER_SIZE < USIZE := by
    have : Gen.FOOTER_SIZE = FOOTER_SIZE := rfl
    omega
  unfold Gen.Fn.allocated_bytes_including_metadata
  simp only [gen_iter_allocated_chunks_raw, bindO, gen_chunk_count E M s hok, h1, if_true, Gen.Fn.allocated_bytes, h2]

theorem gen_allocated_bytes_including_metadata_wf (E M : Nat) (s : St) (h : ArenaWF E s.a)
    (hfit : allocatedBytesIncludingMetadata s.a E < USIZE) :
    Gen.Fn.allocated_bytes_including_metadata E M s = (s, .ok (allocatedBytesIncludingMetadata s.a E)) :=
  gen_allocated_bytes_including_metadata E M s (IterOK.of_wf h) hfit

#print axioms gen_dealloc_chunk_list
#print axioms gen_bump_drop
#print axioms gen_chunk_count
#print axioms gen_allocated_bytes_including_metadata

end Bump
