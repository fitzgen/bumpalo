import BumpVerif.Gen.FnTyped
import BumpVerif.Proofs.Arith
/-!
# The typed allocation methods of `Bump` as translated: what is written where, what is called when

These are the C02 / C11 statements about `alloc`, `alloc_with`, `alloc_slice_copy`, `alloc_str`, `alloc_slice_fill_with`,
`alloc_slice_fill_copy` and their `try_` twins, proved of the *translated* bodies, relative to whatever the translated
`alloc_layout` / `try_alloc_layout` does on the arena state (its own equivalence with the arena model is `gen_alloc_layout` /
`gen_try_alloc_layout`):

* space first: when the allocation fails nothing is written and the closure is never called;
* on success the block returned is the one `alloc_layout` returned, element `i` is written at `p + i * size_of::<T>()` with the
  value the closure returned for `i` (or the `i`-th source element), closures are called exactly once per index, in index order;
* a closure that panics at index `e` has been called for `0..=e`, elements `0..e` are written, the arena state is the one after
  the allocation (the block stays allocated: no rewind in these methods).
-/
namespace Bump.RsT
open Bump Rs Gen

def pureClo (g : Nat → Val) : Clo := fun i t => (t, .ok (g i))
def panicClo (g : Nat → Val) (e : Nat) : Clo := fun i t => if i = e then (t, .panic) else (t, .ok (g i))

/-- the result of a failed allocation carried through a typed method: nothing but the arena state changes -/
def afterAlloc {α β : Type} (t : TS) (r : St × Outcome α) (k : St → α → TS × Outcome β) : TS × Outcome β :=
  match r with
  | (s', .ok p) => k s' p
  | (s', .err) => ({ t with st := s' }, .err)
  | (s', .panic) => ({ t with st := s' }, .panic)
  | (s', .bad w) => ({ t with st := s' }, .bad w)
  | (s', .envBad) => ({ t with st := s' }, .envBad)

theorem bind_ok {α β : Type} (t : TS) (a : α) (f : TS → α → TS × Outcome β) : bind (t, Outcome.ok a) f = f t a := rfl

/-- the trailing `Ok(x)` / tail expression of a one-line wrapper -/
theorem bind_ok_id {α : Type} (r : TS × Outcome α) : bind r (fun t x => (t, Outcome.ok x)) = r := by
  obtain ⟨t, o⟩ := r
  cases o <;> rfl

theorem bind_liftS {α β : Type} (f : St → St × Outcome α) (t : TS) (k : TS → α → TS × Outcome β) :
    bind (liftS f t) k = afterAlloc t (f t.st) (fun s' p => k { t with st := s' } p) := by
  unfold liftS afterAlloc bind
  generalize f t.st = r
  obtain ⟨s', o⟩ := r
  cases o <;> rfl

theorem bind_assoc {α β γ : Type} (r : TS × Outcome α) (f : TS → α → TS × Outcome β) (k : TS → β → TS × Outcome γ) :
    bind (bind r f) k = bind r fun t a => bind (f t a) k := by
  obtain ⟨t, o⟩ := r
  cases o <;> rfl

theorem bind_afterAlloc {α β γ : Type} (t : TS) (r : St × Outcome α) (f : St → α → TS × Outcome β) (k : TS → β → TS × Outcome γ) :
    bind (afterAlloc t r f) k = afterAlloc t r fun s' p => bind (f s' p) k := by
  obtain ⟨s', o⟩ := r
  cases o <;> rfl

/-- `q j` is the iterator position before call `j`: `q` is constant for a closure that leaves the state alone. -/
theorem fill_loop_prefix (E M esz eal len : Nat) (f : Clo) (g : Nat → Val) (q : Nat → Nat) (lay : Layout) (dst : Nat) :
    ∀ (m i0 n : Nat) (t : TS), t.iterPos = q i0 →
    (∀ j, i0 ≤ j → j < i0 + m → ∀ t, t.iterPos = q j → f j t = ({ t with iterPos := q (j + 1) }, .ok (g j))) →
    Gen.Fn.t_alloc_slice_fill_with.loop E M esz eal len f lay dst (m + n) i0 t =
      Gen.Fn.t_alloc_slice_fill_with.loop E M esz eal len f lay dst n (i0 + m)
        { t with wr := t.wr ++ (List.range' i0 m).map (fun j => (dst + j * esz, g j)), calls := t.calls ++ List.range' i0 m,
                 iterPos := q (i0 + m) } := by
  intro m
  induction m with
  | zero => intro i0 n t hp _; simp [← hp]
  | succ m ih =>
    intro i0 n t hp hf
    rw [Nat.add_right_comm m 1 n, Gen.Fn.t_alloc_slice_fill_with.loop]
    simp only [call, hf i0 (Nat.le_refl _) (by omega) { t with calls := t.calls ++ [i0] } hp, bind, write]
    rw [ih (i0 + 1) n _ rfl fun j h1 h2 => hf j (by omega) (by omega)]
    simp only [List.range'_succ, List.map_cons, List.append_assoc, List.singleton_append, Nat.add_assoc, Nat.add_comm 1 m]

theorem fill_loop_pure (E M esz eal len : Nat) (g : Nat → Val) (lay : Layout) (dst n : Nat) (t : TS) :
    Gen.Fn.t_alloc_slice_fill_with.loop E M esz eal len (pureClo g) lay dst n 0 t =
      ({ t with wr := t.wr ++ (List.range n).map (fun k => (dst + k * esz, g k)), calls := t.calls ++ List.range n }, .ok ()) := by
  refine (fill_loop_prefix E M esz eal len (pureClo g) g (fun _ => t.iterPos) lay dst n 0 0 t rfl fun _ _ _ _ h => by rw [← h]; rfl).trans ?_
  rw [Gen.Fn.t_alloc_slice_fill_with.loop, List.range_eq_range']

theorem fill_loop_panic (E M esz eal len : Nat) (g : Nat → Val) (e : Nat) (lay : Layout) (dst n : Nat) (t : TS) (he : e < n) :
    Gen.Fn.t_alloc_slice_fill_with.loop E M esz eal len (panicClo g e) lay dst n 0 t =
      ({ t with wr := t.wr ++ (List.range e).map (fun k => (dst + k * esz, g k)), calls := t.calls ++ List.range (e + 1) }, .panic) := by
  obtain ⟨k, rfl⟩ : ∃ k, n = e + (k + 1) := ⟨n - e - 1, by omega⟩
  rw [fill_loop_prefix E M esz eal len (panicClo g e) g (fun _ => t.iterPos) lay dst e 0 (k + 1) t rfl
      fun j _ hj _ h => by rw [← h]; exact if_neg (by omega),
    Gen.Fn.t_alloc_slice_fill_with.loop]
  simp [call, panicClo, bind, List.range_eq_range', List.range'_concat]

def filled (t : TS) (s' : St) (esz p len : Nat) (g : Nat → Val) : TS :=
  { t with st := s', wr := t.wr ++ (List.range len).map (fun i => (p + i * esz, g i)), calls := t.calls ++ List.range len }

theorem try_fill_loop_eq : @Gen.Fn.t_try_alloc_slice_fill_with.loop = @Gen.Fn.t_alloc_slice_fill_with.loop := by
  funext E M esz eal len f lay dst n
  induction n with
  | zero => rfl
  | succ n ih =>
    funext i0 t
    rw [Gen.Fn.t_try_alloc_slice_fill_with.loop, Gen.Fn.t_alloc_slice_fill_with.loop, ih]

theorem gen_alloc_slice_fill_with (E M esz eal len : Nat) (g : Nat → Val) (t : TS) :
    Gen.Fn.t_alloc_slice_fill_with E M esz eal len (pureClo g) t =
      match arrayLayout esz eal len with
      | none => (t, .panic)
      | some total => afterAlloc t (Gen.Fn.alloc_layout E M ⟨total, eal⟩ t.st) fun s' p => (filled t s' esz p len g, .ok (p, len)) := by
  unfold Gen.Fn.t_alloc_slice_fill_with
  cases h : arrayLayout esz eal len with
  | none => rfl
  | some total =>
    simp only [bind_liftS, fill_loop_pure, bind_ok, arrayLayout_some_eq h, beq_self_eq_true, if_true, filled]

theorem gen_try_alloc_slice_fill_with (E M esz eal len : Nat) (g : Nat → Val) (t : TS) :
    Gen.Fn.t_try_alloc_slice_fill_with E M esz eal len (pureClo g) t =
      match arrayLayout esz eal len with
      | none => (t, .err)
      | some total => afterAlloc t (Gen.Fn.try_alloc_layout E M ⟨total, eal⟩ t.st) fun s' p => (filled t s' esz p len g, .ok (p, len)) := by
  unfold Gen.Fn.t_try_alloc_slice_fill_with
  cases h : arrayLayout esz eal len with
  | none => rfl
  | some total =>
    simp only [bind_liftS, try_fill_loop_eq, fill_loop_pure, bind_ok, arrayLayout_some_eq h, beq_self_eq_true, if_true, filled]

/-- C11 for the fill methods: a closure that panics at index `e < len` was called for `0..=e`, elements `0..e` are written, and the
arena is as the allocation left it -/
theorem gen_alloc_slice_fill_with_panic (E M esz eal len : Nat) (g : Nat → Val) (e : Nat) (he : e < len) (t : TS) :
    Gen.Fn.t_alloc_slice_fill_with E M esz eal len (panicClo g e) t =
      match arrayLayout esz eal len with
      | none => (t, .panic)
      | some total => afterAlloc t (Gen.Fn.alloc_layout E M ⟨total, eal⟩ t.st) fun s' p =>
          ({ t with st := s', wr := t.wr ++ (List.range e).map (fun i => (p + i * esz, g i)), calls := t.calls ++ List.range (e + 1) }, .panic) := by
  unfold Gen.Fn.t_alloc_slice_fill_with
  cases h : arrayLayout esz eal len with
  | none => rfl
  | some total =>
    simp only [bind_liftS, fill_loop_panic, he]
    rfl

theorem gen_try_alloc_slice_fill_with_panic (E M esz eal len : Nat) (g : Nat → Val) (e : Nat) (he : e < len) (t : TS) :
    Gen.Fn.t_try_alloc_slice_fill_with E M esz eal len (panicClo g e) t =
      match arrayLayout esz eal len with
      | none => (t, .err)
      | some total => afterAlloc t (Gen.Fn.try_alloc_layout E M ⟨total, eal⟩ t.st) fun s' p =>
          ({ t with st := s', wr := t.wr ++ (List.range e).map (fun i => (p + i * esz, g i)), calls := t.calls ++ List.range (e + 1) }, .panic) := by
  unfold Gen.Fn.t_try_alloc_slice_fill_with
  cases h : arrayLayout esz eal len with
  | none => rfl
  | some total =>
    simp only [bind_liftS, try_fill_loop_eq, fill_loop_panic, he]
    rfl

theorem gen_alloc_slice_fill_copy (E M esz eal len : Nat) (v : Val) (t : TS) :
    Gen.Fn.t_alloc_slice_fill_copy E M esz eal len v t = Gen.Fn.t_alloc_slice_fill_with E M esz eal len (pureClo fun _ => v) t :=
  bind_ok_id _

theorem gen_try_alloc_slice_fill_copy (E M esz eal len : Nat) (v : Val) (t : TS) :
    Gen.Fn.t_try_alloc_slice_fill_copy E M esz eal len v t = Gen.Fn.t_try_alloc_slice_fill_with E M esz eal len (pureClo fun _ => v) t :=
  bind_ok_id _

/-- for *any* closure, also one that allocates from the same arena or panics; it runs once, logged as call `0` -/
theorem gen_alloc_with (E M esz eal : Nat) (f : Clo) (t : TS) :
    Gen.Fn.t_alloc_with E M esz eal f t =
      afterAlloc t (Gen.Fn.alloc_layout E M ⟨esz, eal⟩ t.st) fun s' p =>
        bind (f 0 { t with st := s', calls := t.calls ++ [0] }) fun t' v => ({ t' with wr := t'.wr ++ [(p, v)] }, .ok p) := by
  unfold Gen.Fn.t_alloc_with Gen.Fn.t_alloc_with_inner_writer
  simp only [bind_liftS, bind_assoc, write, bind_ok]
  rfl

theorem gen_try_alloc_with (E M esz eal : Nat) (f : Clo) (t : TS) :
    Gen.Fn.t_try_alloc_with E M esz eal f t =
      afterAlloc t (Gen.Fn.try_alloc_layout E M ⟨esz, eal⟩ t.st) fun s' p =>
        bind (f 0 { t with st := s', calls := t.calls ++ [0] }) fun t' v => ({ t' with wr := t'.wr ++ [(p, v)] }, .ok p) := by
  unfold Gen.Fn.t_try_alloc_with Gen.Fn.t_try_alloc_with_inner_writer
  simp only [bind_liftS, bind_assoc, write, bind_ok]
  rfl

theorem gen_alloc (E M esz eal : Nat) (v : Val) (t : TS) :
    Gen.Fn.t_alloc E M esz eal v t =
      afterAlloc t (Gen.Fn.alloc_layout E M ⟨esz, eal⟩ t.st) fun s' p =>
        ({ t with st := s', wr := t.wr ++ [(p, v)], calls := t.calls ++ [0] }, .ok p) := by
  rw [Gen.Fn.t_alloc, bind_ok_id, gen_alloc_with]
  rfl

theorem gen_try_alloc (E M esz eal : Nat) (v : Val) (t : TS) :
    Gen.Fn.t_try_alloc E M esz eal v t =
      afterAlloc t (Gen.Fn.try_alloc_layout E M ⟨esz, eal⟩ t.st) fun s' p =>
        ({ t with st := s', wr := t.wr ++ [(p, v)], calls := t.calls ++ [0] }, .ok p) := by
  rw [Gen.Fn.t_try_alloc, bind_ok_id, gen_try_alloc_with]
  rfl

theorem gen_alloc_slice_copy (E M esz eal : Nat) (src : List Val) (t : TS) :
    Gen.Fn.t_alloc_slice_copy E M esz eal src t =
      afterAlloc t (Gen.Fn.alloc_layout E M ⟨esz * src.length, eal⟩ t.st) fun s' p =>
        ({ t with st := s', wr := t.wr ++ (List.range src.length).map fun i => (p + i * esz, src.getD i 0) }, .ok (p, src.length)) :=
  bind_liftS _ t _

theorem gen_try_alloc_slice_copy (E M esz eal : Nat) (src : List Val) (t : TS) :
    Gen.Fn.t_try_alloc_slice_copy E M esz eal src t =
      afterAlloc t (Gen.Fn.try_alloc_layout E M ⟨esz * src.length, eal⟩ t.st) fun s' p =>
        ({ t with st := s', wr := t.wr ++ (List.range src.length).map fun i => (p + i * esz, src.getD i 0) }, .ok (p, src.length)) :=
  bind_liftS _ t _

theorem gen_alloc_str (E M : Nat) (src : List Val) (t : TS) :
    Gen.Fn.t_alloc_str E M src t =
      afterAlloc t (Gen.Fn.alloc_layout E M ⟨src.length, 1⟩ t.st) fun s' p =>
        ({ t with st := s', wr := t.wr ++ (List.range src.length).map fun i => (p + i, src.getD i 0) }, .ok (p, src.length)) := by
  rw [Gen.Fn.t_alloc_str, bind_ok_id, gen_alloc_slice_copy]
  simp only [Nat.one_mul, Nat.mul_one]

theorem gen_try_alloc_str (E M : Nat) (src : List Val) (t : TS) :
    Gen.Fn.t_try_alloc_str E M src t =
      afterAlloc t (Gen.Fn.try_alloc_layout E M ⟨src.length, 1⟩ t.st) fun s' p =>
        ({ t with st := s', wr := t.wr ++ (List.range src.length).map fun i => (p + i, src.getD i 0) }, .ok (p, src.length)) := by
  rw [Gen.Fn.t_try_alloc_str, bind_ok_id, gen_try_alloc_slice_copy]
  simp only [Nat.one_mul, Nat.mul_one]

theorem gen_alloc_slice_fill_clone (E M esz eal len : Nat) (cl : Val → TS → TS × Outcome Val) (v : Val) (t : TS) :
    Gen.Fn.t_alloc_slice_fill_clone E M esz eal cl len v t = Gen.Fn.t_alloc_slice_fill_with E M esz eal len (fun _ t => cl v t) t := by
  unfold Gen.Fn.t_alloc_slice_fill_clone
  simp only [bind_ok_id]
theorem gen_try_alloc_slice_fill_clone (E M esz eal len : Nat) (cl : Val → TS → TS × Outcome Val) (v : Val) (t : TS) :
    Gen.Fn.t_try_alloc_slice_fill_clone E M esz eal cl len v t = Gen.Fn.t_try_alloc_slice_fill_with E M esz eal len (fun _ t => cl v t) t := by
  unfold Gen.Fn.t_try_alloc_slice_fill_clone
  simp only [bind_ok_id]
theorem gen_alloc_slice_fill_default (E M esz eal len : Nat) (d : TS → TS × Outcome Val) (t : TS) :
    Gen.Fn.t_alloc_slice_fill_default E M esz eal d len t = Gen.Fn.t_alloc_slice_fill_with E M esz eal len (fun _ t => d t) t := by
  unfold Gen.Fn.t_alloc_slice_fill_default
  simp only [bind_ok_id]
theorem gen_try_alloc_slice_fill_default (E M esz eal len : Nat) (d : TS → TS × Outcome Val) (t : TS) :
    Gen.Fn.t_try_alloc_slice_fill_default E M esz eal d len t = Gen.Fn.t_try_alloc_slice_fill_with E M esz eal len (fun _ t => d t) t := by
  unfold Gen.Fn.t_try_alloc_slice_fill_default
  simp only [bind_ok_id]

/-- the closure `|_| iter.next().expect(..)` -/
def iterClo (items : List Val) : Clo := fun _ t =>
  bind (iter_next items t) fun t o => match o with | none => (t, .panic) | some x => (t, .ok x)

/-- `claimed` is `iter.len()` -/
theorem gen_alloc_slice_fill_iter (E M esz eal : Nat) (items : List Val) (claimed : Nat) (t : TS) :
    Gen.Fn.t_alloc_slice_fill_iter E M esz eal items claimed t = Gen.Fn.t_alloc_slice_fill_with E M esz eal claimed (iterClo items) t := by
  unfold Gen.Fn.t_alloc_slice_fill_iter
  simp only [bind_ok_id]
  rfl
theorem gen_try_alloc_slice_fill_iter (E M esz eal : Nat) (items : List Val) (claimed : Nat) (t : TS) :
    Gen.Fn.t_try_alloc_slice_fill_iter E M esz eal items claimed t = Gen.Fn.t_try_alloc_slice_fill_with E M esz eal claimed (iterClo items) t := by
  unfold Gen.Fn.t_try_alloc_slice_fill_iter
  simp only [bind_ok_id]
  rfl

theorem iterClo_eq (items : List Val) (i j : Nat) (t : TS) (hp : t.iterPos = j) (hj : j < items.length) :
    iterClo items i t = ({ t with iterPos := j + 1 }, .ok (items.getD j 0)) := by
  subst hp
  simp only [iterClo, iter_next, bind, List.getD_eq_getElem?_getD, List.getElem?_eq_getElem hj]
  rfl

/-- an iterator with too few items: the closure panics at the first missing index, after the items that exist were written -/
theorem fill_loop_iter_short (E M esz eal len : Nat) (items : List Val) (lay : Layout) (dst : Nat) :
    ∀ (n i0 : Nat) (t : TS), t.iterPos = i0 → i0 ≤ items.length → items.length < i0 + n →
    Gen.Fn.t_alloc_slice_fill_with.loop E M esz eal len (iterClo items) lay dst n i0 t =
      ({ t with wr := t.wr ++ (List.range (items.length - i0)).map (fun k => (dst + (i0 + k) * esz, items.getD (i0 + k) 0)),
                calls := t.calls ++ (List.range (items.length - i0 + 1)).map (fun k => i0 + k), iterPos := items.length + 1 }, .panic) := by
  intro n i0 t hp h1 h2
  obtain ⟨k, rfl⟩ : ∃ k, n = (items.length - i0) + (k + 1) := ⟨n - (items.length - i0) - 1, by omega⟩
  have hlen : i0 + (items.length - i0) = items.length := by omega
  rw [fill_loop_prefix E M esz eal len (iterClo items) (items.getD · 0) id lay dst _ i0 (k + 1) t hp
      fun j _ hj t hp => iterClo_eq items j j t hp (by omega),
    Gen.Fn.t_alloc_slice_fill_with.loop, hlen]
  simp [call, iterClo, iter_next, bind, List.range'_eq_map_range, List.range_succ, hlen]

/-- C02 for `alloc_slice_fill_iter`: an iterator that is as long as it says (a fresh one: nothing handed out yet) fills the slice
with its items in order -/
theorem gen_alloc_slice_fill_iter_exact (E M esz eal : Nat) (items : List Val) (t : TS) (hp : t.iterPos = 0) :
    Gen.Fn.t_alloc_slice_fill_iter E M esz eal items items.length t =
      match arrayLayout esz eal items.length with
      | none => (t, .panic)
      | some total => afterAlloc t (Gen.Fn.alloc_layout E M ⟨total, eal⟩ t.st) fun s' p =>
          ({ t with st := s', wr := t.wr ++ (List.range items.length).map (fun i => (p + i * esz, items.getD i 0)),
                    calls := t.calls ++ List.range items.length, iterPos := items.length }, .ok (p, items.length)) := by
  rw [gen_alloc_slice_fill_iter]
  unfold Gen.Fn.t_alloc_slice_fill_with
  cases h : arrayLayout esz eal items.length with
  | none => rfl
  | some total =>
    have ht := arrayLayout_some_eq h
    simp only [bind_liftS]
    congr 1
    funext s' p
    have := fill_loop_prefix E M esz eal items.length (iterClo items) (items.getD · 0) id ⟨total, eal⟩ p items.length 0 0 { t with st := s' } hp
      fun j _ hj t hp => iterClo_eq items j j t hp (by omega)
    rw [Nat.add_zero] at this
    rw [this, Gen.Fn.t_alloc_slice_fill_with.loop]
    simp [bind, ht, List.range_eq_range']

/-- `alloc_slice_clone(src)` with a `Clone` that only computes: element `i` is the clone of `src[i]`, cloned in index order -/
theorem slice_clone_loop (E M esz eal : Nat) (h : Val → Val) (src0 : List Val) (lay : Layout) (dst : Nat) :
    ∀ (xs : List Val) (i0 : Nat) (t : TS),
    Gen.Fn.t_alloc_slice_clone.loop E M esz eal (fun v t => (t, .ok (h v))) src0 lay dst xs i0 t =
      ({ t with wr := t.wr ++ (List.range xs.length).map (fun k => (dst + (i0 + k) * esz, h (xs.getD k 0))) }, .ok ()) := by
  intro xs
  induction xs with
  | nil => intro i0 t; simp [Gen.Fn.t_alloc_slice_clone.loop]
  | cons x xs ih =>
    intro i0 t
    unfold Gen.Fn.t_alloc_slice_clone.loop
    simp only [bind, write, ih, List.length_cons]
    rw [List.range_succ_eq_map]
    simp only [List.map_cons, List.map_map, List.append_assoc, List.singleton_append, Nat.add_zero, List.getD_cons_zero]
    congr 4
    apply List.map_congr_left
    intro k _
    simp only [Function.comp, List.getD_cons_succ, Nat.add_right_comm i0 1 k]
    rfl

theorem gen_alloc_slice_clone (E M esz eal : Nat) (h : Val → Val) (src : List Val) (t : TS) :
    Gen.Fn.t_alloc_slice_clone E M esz eal (fun v t => (t, .ok (h v))) src t =
      afterAlloc t (Gen.Fn.alloc_layout E M ⟨esz * src.length, eal⟩ t.st) fun s' p =>
        ({ t with st := s', wr := t.wr ++ (List.range src.length).map fun i => (p + i * esz, h (src.getD i 0)) }, .ok (p, src.length)) := by
  unfold Gen.Fn.t_alloc_slice_clone
  simp only [bind_liftS, slice_clone_loop, bind_ok, Nat.zero_add]

theorem try_slice_clone_loop_eq : @Gen.Fn.t_try_alloc_slice_clone.loop = @Gen.Fn.t_alloc_slice_clone.loop := by
  funext E M esz eal cl src0 lay dst xs
  induction xs with
  | nil => rfl
  | cons x xs ih =>
    funext i0 t
    rw [Gen.Fn.t_try_alloc_slice_clone.loop, Gen.Fn.t_alloc_slice_clone.loop, ih]

theorem gen_try_alloc_slice_clone (E M esz eal : Nat) (h : Val → Val) (src : List Val) (t : TS) :
    Gen.Fn.t_try_alloc_slice_clone E M esz eal (fun v t => (t, .ok (h v))) src t =
      afterAlloc t (Gen.Fn.try_alloc_layout E M ⟨esz * src.length, eal⟩ t.st) fun s' p =>
        ({ t with st := s', wr := t.wr ++ (List.range src.length).map fun i => (p + i * esz, h (src.getD i 0)) }, .ok (p, src.length)) := by
  unfold Gen.Fn.t_try_alloc_slice_clone
  simp only [bind_liftS, try_slice_clone_loop_eq, slice_clone_loop, bind_ok, Nat.zero_add]

theorem read_val_last (t : TS) (p : Nat) (v : Val) : read_val p { t with wr := t.wr ++ [(p, v)] } = some v := by
  simp [read_val]

/-- what follows the reservation in both functions, for the value `v` the initialiser returned: the value is in the slot; `Ok`
hands out the payload inside the slot and rewinds nothing; `Err` runs the rewind region with the footer and the finger recorded
*on entry* and hands the error value back -/
def afterInit (rewind : Chunk → Nat → Nat → St → St × Outcome Unit) (entry : St) (E okOff : Nat) (isOk : Val → Bool) (p : Nat) (t' : TS) (v : Val) :
    TS × Outcome (Except Val Nat) :=
  let t'' : TS := { t' with wr := t'.wr ++ [(p, v)] }
  if isOk v then (t'', .ok (.ok (p + okOff)))
  else bind (liftS (rewind (entry.a.cur E) (entry.a.cur E).ptr p) t'') fun t3 _ => (t3, .ok (.error v))

/-- for any initialiser `f` (it may allocate from the same arena, or panic); a failed reservation runs nothing -/
theorem gen_alloc_try_with (E M rsz ral okOff : Nat) (isOk : Val → Bool) (f : Clo) (t : TS) :
    Gen.Fn.t_alloc_try_with E M rsz ral okOff isOk f t =
      afterAlloc t (Gen.Fn.alloc_layout E M ⟨rsz, ral⟩ t.st) fun s' p =>
        bind (f 0 { t with st := s', calls := t.calls ++ [0] }) fun t' v =>
          afterInit (Gen.Fn.alloc_try_with_rewind E M) t.st E okOff isOk p t' v := by
  unfold Gen.Fn.t_alloc_try_with
  simp only [gen_alloc_with, bind_afterAlloc, bind_assoc, bind_ok, read_val_last]
  rfl

theorem gen_try_alloc_try_with (E M rsz ral okOff : Nat) (isOk : Val → Bool) (f : Clo) (t : TS) :
    Gen.Fn.t_try_alloc_try_with E M rsz ral okOff isOk f t =
      afterAlloc t (Gen.Fn.try_alloc_layout E M ⟨rsz, ral⟩ t.st) fun s' p =>
        bind (f 0 { t with st := s', calls := t.calls ++ [0] }) fun t' v =>
          afterInit (Gen.Fn.try_alloc_try_with_rewind E M) t.st E okOff isOk p t' v := by
  unfold Gen.Fn.t_try_alloc_try_with
  simp only [gen_try_alloc_with, bind_afterAlloc, bind_assoc, bind_ok, read_val_last]
  rfl

theorem try_fill_loop_split (E M esz eal : Nat) (isOk : Val → Bool) (len : Nat) (g : Nat → Val) (lay : Layout) (base dst : Nat) :
    ∀ (m i0 n : Nat) (t : TS), (∀ j, i0 ≤ j → j < i0 + m → isOk (g j) = true) →
    Gen.Fn.t_alloc_slice_try_fill_with.loop E M esz eal isOk len (pureClo g) lay base dst (m + n) i0 t =
      bind (Gen.Fn.t_alloc_slice_fill_with.loop E M esz eal len (pureClo g) lay dst m i0 t) fun t _ =>
        Gen.Fn.t_alloc_slice_try_fill_with.loop E M esz eal isOk len (pureClo g) lay base dst n (i0 + m) t := by
  intro m
  induction m with
  | zero => intro i0 n t _; rw [Nat.zero_add]; rfl
  | succ m ih =>
    intro i0 n t hok
    rw [Nat.add_right_comm m 1 n, Gen.Fn.t_alloc_slice_try_fill_with.loop, Gen.Fn.t_alloc_slice_fill_with.loop]
    simp only [call, pureClo, bind_ok, hok i0 (Nat.le_refl _) (by omega), if_true, write]
    rw [ih (i0 + 1) n _ fun j h1 h2 => hok j (by omega) (by omega), Nat.add_assoc, Nat.add_comm 1 m]

theorem gen_alloc_slice_try_fill_with_ok (E M esz eal len : Nat) (isOk : Val → Bool) (g : Nat → Val) (t : TS)
    (hok : ∀ k, k < len → isOk (g k) = true) :
    Gen.Fn.t_alloc_slice_try_fill_with E M esz eal isOk len (pureClo g) t =
      match arrayLayout esz eal len with
      | none => (t, .panic)
      | some total => afterAlloc t (Gen.Fn.alloc_layout E M ⟨total, eal⟩ t.st) fun s' p => (filled t s' esz p len g, .ok (.ok (p, len))) := by
  unfold Gen.Fn.t_alloc_slice_try_fill_with
  cases h : arrayLayout esz eal len with
  | none => rfl
  | some total =>
    have ht := arrayLayout_some_eq h
    simp only [bind_liftS]
    congr 1
    funext s' p
    have := try_fill_loop_split E M esz eal isOk len g ⟨total, eal⟩ p p len 0 0 { t with st := s' } fun j _ hj => hok j (by omega)
    rw [Nat.add_zero] at this
    rw [this, fill_loop_pure, bind_ok]
    simp only [Gen.Fn.t_alloc_slice_try_fill_with.loop, ht, beq_self_eq_true, if_true, filled]

/-- C11 for `alloc_slice_try_fill_with`: the first `Err` at index `e < len` — elements `0..e` written, `f` called for `0..=e` and
never again, the block released through `dealloc(base, layout)` with the layout it was reserved with, the error returned -/
theorem gen_alloc_slice_try_fill_with_err (E M esz eal len : Nat) (isOk : Val → Bool) (g : Nat → Val) (e : Nat) (he : e < len) (t : TS)
    (hok : ∀ j, j < e → isOk (g j) = true) (herr : isOk (g e) = false) :
    Gen.Fn.t_alloc_slice_try_fill_with E M esz eal isOk len (pureClo g) t =
      match arrayLayout esz eal len with
      | none => (t, .panic)
      | some total => afterAlloc t (Gen.Fn.alloc_layout E M ⟨total, eal⟩ t.st) fun s' p =>
          bind (liftS (Gen.Fn.dealloc E M p ⟨total, eal⟩)
            { t with st := s', wr := t.wr ++ (List.range e).map (fun i => (p + i * esz, g i)), calls := t.calls ++ List.range (e + 1) })
            fun t' _ => (t', .ok (.error (g e))) := by
  unfold Gen.Fn.t_alloc_slice_try_fill_with
  cases h : arrayLayout esz eal len with
  | none => rfl
  | some total =>
    simp only [bind_liftS]
    congr 1
    funext s' p
    obtain ⟨k, rfl⟩ : ∃ k, len = e + (k + 1) := ⟨len - e - 1, by omega⟩
    rw [try_fill_loop_split E M esz eal isOk _ g ⟨total, eal⟩ p p e 0 (k + 1) { t with st := s' } fun j _ hj => hok j (by omega),
      fill_loop_pure, bind_ok, Gen.Fn.t_alloc_slice_try_fill_with.loop]
    simp [call, pureClo, bind_ok, herr, bind_liftS, List.range_succ]

theorem gen_alloc_slice_try_fill_iter (E M esz eal : Nat) (isOk : Val → Bool) (items : List Val) (claimed : Nat) (t : TS) :
    Gen.Fn.t_alloc_slice_try_fill_iter E M esz eal isOk items claimed t =
      Gen.Fn.t_alloc_slice_try_fill_with E M esz eal isOk claimed (iterClo items) t := by
  unfold Gen.Fn.t_alloc_slice_try_fill_iter
  simp only [bind_ok_id]
  rfl

/-- non-vacuity: a failed allocation leaves both logs untouched (`afterAlloc` on a failure) -/
example (t : TS) (s' : St) (k : St → Nat → TS × Outcome Nat) :
    (afterAlloc t (s', (Outcome.err : Outcome Nat)) k).1.wr = t.wr ∧ (afterAlloc t (s', (Outcome.err : Outcome Nat)) k).1.calls = t.calls :=
  ⟨rfl, rfl⟩

#print axioms gen_alloc_slice_fill_with
#print axioms gen_try_alloc_slice_fill_with
#print axioms gen_alloc_slice_fill_with_panic
#print axioms gen_try_alloc_slice_fill_with_panic
#print axioms gen_alloc_slice_fill_copy
#print axioms gen_try_alloc_slice_fill_copy
#print axioms gen_alloc_with
#print axioms gen_try_alloc_with
#print axioms gen_alloc
#print axioms gen_try_alloc
#print axioms gen_alloc_slice_copy
#print axioms gen_try_alloc_slice_copy
#print axioms gen_alloc_str
#print axioms gen_alloc_try_with
#print axioms gen_alloc_slice_try_fill_with_ok
#print axioms gen_alloc_slice_try_fill_with_err
#print axioms gen_alloc_slice_try_fill_iter
#print axioms gen_try_alloc_try_with
#print axioms gen_alloc_slice_fill_clone
#print axioms gen_alloc_slice_fill_default
#print axioms gen_alloc_slice_fill_iter
#print axioms gen_try_alloc_slice_fill_iter
#print axioms gen_alloc_slice_fill_iter_exact
#print axioms fill_loop_iter_short
#print axioms gen_alloc_slice_clone
#print axioms gen_try_alloc_slice_clone
#print axioms gen_try_alloc_str

end Bump.RsT
