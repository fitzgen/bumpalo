import BumpVerif.Proofs.Live
/-! The allocator ledger: computed from the event log alone; always equal to the chunk list. -/
namespace Bump
open Gen

abbrev Blk := Nat × Nat × Nat

def applyEv (held : List Blk) : Ev → List Blk
  | .malloc sz al (some a) => (a, sz, al) :: held
  | .malloc _ _ none => held
  | .free a sz al => held.erase (a, sz, al)

def ledger (init : List Blk) (evs : List Ev) : List Blk := evs.foldl applyEv init

def key (c : Chunk) : Blk := (c.data, c.size, c.align)

def Ledger (s : St) : Prop := ledger [] s.evs = s.a.chunks.map key

theorem ledger_append (init : List Blk) (a b : List Ev) : ledger init (a ++ b) = ledger (ledger init a) b := by
  simp [ledger, List.foldl_append]

theorem ledger_refused (init : List Blk) (refs : List Ev) (h : AllRefused refs) : ledger init refs = init := by
  induction refs generalizing init with
  | nil => rfl
  | cons e es ih =>
    obtain ⟨sz, al, he⟩ := h e List.mem_cons_self
    subst he
    simp only [ledger, List.foldl_cons, applyEv]
    exact ih init (fun x hx => h x (List.mem_cons_of_mem _ hx))

inductive LedgerStep : St → St → Prop
  | refl (s : St) : LedgerStep s s
  | refused {s s' : St} (refs : List Ev) (hr : AllRefused refs) (he : s'.evs = s.evs ++ refs)
      (hk : s'.a.chunks.map key = s.a.chunks.map key) : LedgerStep s s'
  | acquired {s s' : St} (refs : List Ev) (c : Chunk) (hr : AllRefused refs)
      (he : s'.evs = s.evs ++ refs ++ [.malloc c.size c.align (some c.data)])
      (hk : s'.a.chunks.map key = key c :: s.a.chunks.map key) : LedgerStep s s'
  | trans {s s' s'' : St} (h1 : LedgerStep s s') (h2 : LedgerStep s' s'') : LedgerStep s s''

theorem LedgerStep.preserves {s s' : St} (h : LedgerStep s s') (hl : Ledger s) : Ledger s' := by
  induction h with
  | refl => exact hl
  | refused refs hr he hk =>
    unfold Ledger at *
    rw [he, ledger_append, hl, ledger_refused _ _ hr, hk]
  | acquired refs c hr he hk =>
    unfold Ledger at *
    rw [he, ledger_append, ledger_append, hl, ledger_refused _ _ hr, hk]
    simp [Bump.ledger, applyEv, key]
  | trans _ _ ih1 ih2 => exact ih2 (ih1 hl)

theorem LedgerStep.of_eq {s s' : St} (ha : s'.a.chunks.map key = s.a.chunks.map key) (he : s'.evs = s.evs) :
    LedgerStep s s' := .refused [] AllRefused.nil (by simp [he]) ha

theorem setCurPtr_keys {E a p a'} (h : setCurPtr E a p = some a') : a'.chunks.map key = a.chunks.map key := by
  rcases setCurPtr_cases h with ⟨_, rfl⟩ | ⟨c, cs, hc, rfl⟩
  · rfl
  · rw [hc]; rfl

theorem tryFast_keys {E a sz al a' p} (h : tryFast E a sz al = .ok (some (a', p))) : a'.chunks.map key = a.chunks.map key :=
  setCurPtr_keys (tryFast_some h).2

/-- What the arena's primitives other than `reset` and the copies of `grow`/`shrink` do to the state. -/
structure Quiet (s s' : St) : Prop where
  ledger : LedgerStep s s'
  mem : s'.mem = s.mem
  persist : Persist s.a s'.a

theorem Quiet.refl (s : St) : Quiet s s := ⟨.refl s, rfl, .refl _⟩

theorem Quiet.trans {s s' s'' : St} (h1 : Quiet s s') (h2 : Quiet s' s'') : Quiet s s'' :=
  ⟨h1.ledger.trans h2.ledger, h2.mem.trans h1.mem, h1.persist.trans h2.persist⟩

theorem storePtr_quiet (E : Nat) (s : St) (p : Nat) (why : String) : Quiet s (storePtr E s p why).1 := by
  unfold storePtr
  cases h : setCurPtr E s.a p with
  | none => exact .refl s
  | some a' =>
    refine ⟨.of_eq (setCurPtr_keys h) rfl, rfl, ?_⟩
    rcases setCurPtr_cases h with ⟨_, rfl⟩ | ⟨c, cs, hc, rfl⟩
    · exact .refl _
    · exact .of_head rfl hc rfl

theorem dealloc_quiet (E p sz : Nat) (s : St) : Quiet s (dealloc E p sz s).1 :=
  dealloc_elim (.refl s) (storePtr_quiet E s)

theorem rewind_quiet (E : Nat) (rf : Option Nat) (rp slot : Nat) (s : St) : Quiet s (rewind E rf rp slot s).1 := by
  unfold rewind
  split
  · exact storePtr_quiet E s _ _
  · exact .refl s

theorem allocPost_quiet {E sz al} {s s' : St} {o : Outcome Nat} (sp : AllocPost E s s' sz al o) (hne : o ≠ .envBad) :
    Quiet s s' := by
  have hf : o = .err ∨ o = .panic → Quiet s s' := fun ho =>
    let ⟨ha, refs, hr, hev⟩ := sp.fail ho
    ⟨.refused refs hr hev (by rw [ha]), sp.mem_eq, .of_eq ha⟩
  cases o with
  | ok p =>
    obtain ⟨_, _, _, _, hsh, refs, hr, hcase⟩ := sp.ok p rfl
    refine ⟨?_, sp.mem_eq, hsh.persist sp.m_eq⟩
    rcases hcase with ⟨hev, hlen⟩ | ⟨c, hc, hev, _⟩
    · refine .refused refs hr hev ?_
      rcases hsh with ⟨_, ha, _, _⟩ | ⟨c0, cs, h0, h0', _, _⟩ | ⟨c1, hc1, _⟩
      · rw [ha]
      · rw [h0, h0']; rfl
      · rw [hc1] at hlen; simp at hlen
    · exact .acquired refs c hr hev (by rw [hc]; rfl)
  | err => exact hf (.inl rfl)
  | panic => exact hf (.inr rfl)
  | bad w => exact absurd rfl (sp.nobad w)
  | envBad => exact absurd rfl hne

def LedgerCall {α : Type} (s : St) (r : St × Outcome α) : Prop := r.2 = .envBad ∨ LedgerStep s r.1

theorem LedgerCall.of {α : Type} {s s' : St} (o : Outcome α) (h : LedgerStep s s') : LedgerCall s (s', o) := .inr h

theorem LedgerCall.refl {α : Type} (s : St) (o : Outcome α) : LedgerCall s (s, o) := .inr (.refl s)

theorem LedgerCall.bind {α β : Type} {s : St} {x : St × Outcome α} {f : St → α → St × Outcome β}
    (h1 : LedgerCall s x) (h2 : ∀ a, LedgerCall x.1 (f x.1 a)) : LedgerCall s (bindO x f) := by
  obtain ⟨s1, o⟩ := x
  cases o with
  | ok a => exact (h2 a).imp id (h1.resolve_left nofun).trans
  | envBad => exact .inl rfl
  | _ => exact .inr (h1.resolve_left nofun)

theorem copyNonoverlapping_ledger (p q n : Nat) (why : String) (s : St) : LedgerCall s (copyNonoverlapping p q n why s) := by
  unfold copyNonoverlapping
  split
  · exact .refl s _
  · exact .of _ (.of_eq rfl rfl)

theorem tryAlloc_ledger {E sz al} (s : St) (hE : EnvOK E) (h : ArenaWF E s.a) (hA : IsPow2 al) (hlay : sz + al ≤ 2 ^ 63) :
    LedgerCall s (tryAllocLayout E sz al s) :=
  (Decidable.em _).imp id fun hne => (allocPost_quiet (tryAllocLayout_spec s hE h hA hlay).1 hne).ledger

theorem LedgerCall.ite {α : Type} {s : St} {c : Prop} [Decidable c] {x y : St × Outcome α}
    (hx : LedgerCall s x) (hy : LedgerCall s y) : LedgerCall s (if c then x else y) := by
  split
  · exact hx
  · exact hy

/-- `shrink` talks to the allocator only through `try_alloc_layout` -/
theorem shrink_ledger {E p osz oal nsz nal} (s : St) (hE : EnvOK E) (h : ArenaWF E s.a) (hN : IsPow2 nal)
    (hlay : nsz + nal ≤ 2 ^ 63) : LedgerCall s (shrink E p osz oal nsz nal s) := by
  unfold shrink
  exact .ite
    (.ite (.refl s _) ((tryAlloc_ledger s hE h hN hlay).bind fun _ => copyNonoverlapping_ledger _ _ _ _ _))
    (.ite (.refl s _) (.ite (.refl s _) (.ite
      (.ite (.refl s _)
        ((LedgerCall.of _ (storePtr_quiet E s _ _).ledger).bind fun _ => copyNonoverlapping_ledger _ _ _ _ _))
      (.refl s _))))

theorem growFallback_ledger {E p osz nsz nal} (s : St) (hE : EnvOK E) (h : ArenaWF E s.a) (hN : IsPow2 nal)
    (hlay : nsz + nal ≤ 2 ^ 63) : LedgerCall s (growFallback E p osz nsz nal s) :=
  (tryAlloc_ledger s hE h hN hlay).bind fun _ => copyNonoverlapping_ledger _ _ _ _ _

/-- `grow` talks to the allocator only through the fallback's `try_alloc_layout` -/
theorem grow_ledger {E p osz oal nsz nal} (s : St) (hE : EnvOK E) (h : ArenaWF E s.a) (hN : IsPow2 nal)
    (hlay : nsz + nal ≤ 2 ^ 63) : LedgerCall s (grow E p osz oal nsz nal s) := by
  have hf := growFallback_ledger (p := p) (osz := osz) s hE h hN hlay
  unfold grow
  cases roundUpTo nsz s.a.M with
  | none => exact .refl s _
  | some ns =>
    refine .ite (.ite (.refl s _) (.ite (.refl s _) ?_)) hf
    cases htf : tryFast E s.a (ns - osz) oal with
    | ok r =>
      cases r with
      | none => exact hf
      | some ap => exact .of _ (.of_eq (tryFast_keys htf) rfl)
    | envBad => exact .inl rfl
    | _ => exact .refl s _

theorem erase_all_tail (k : Blk) (ks : List Blk) (hk : k ∉ ks) :
    ledger (k :: ks) (ks.map fun b => Ev.free b.1 b.2.1 b.2.2) = [k] := by
  induction ks with
  | nil => rfl
  | cons x xs ih =>
    have hx : k ≠ x := fun h => hk (h ▸ List.mem_cons_self)
    have hk' : k ∉ xs := fun h => hk (List.mem_cons_of_mem _ h)
    simp only [List.map_cons, ledger, List.foldl_cons, applyEv]
    have : (k :: x :: xs).erase (x.1, x.2.1, x.2.2) = k :: xs := by
      have hne : ((k : Blk) == (x.1, x.2.1, x.2.2)) = false := by
        simp only [beq_eq_false_iff_ne, ne_eq]; exact hx
      rw [List.erase_cons_tail (by simpa using hne)]
      simp
    rw [this]
    exact ih hk'

theorem erase_all (ks : List Blk) : ledger ks (ks.map fun b => Ev.free b.1 b.2.1 b.2.2) = [] := by
  induction ks with
  | nil => rfl
  | cons x xs ih =>
    simp only [List.map_cons, ledger, List.foldl_cons, applyEv]
    have : (x :: xs).erase (x.1, x.2.1, x.2.2) = xs := by simp
    rw [this]; exact ih

theorem freeEv_map (cs : List Chunk) :
    cs.map freeEv = (cs.map key).map fun b => Ev.free b.1 b.2.1 b.2.2 := by
  simp [freeEv, key, List.map_map, Function.comp_def]

/-- `reset` gives back exactly the chunks other than the newest one, each once, each with the
layout it was requested with; afterwards the allocator still holds exactly the kept chunk. -/
theorem reset_ledger {E} (s : St) (h : ArenaWF E s.a) (hl : Ledger s) : Ledger (reset s).1 := by
  obtain ⟨_, _, _, _, _, h7⟩ := reset_spec s h
  unfold Ledger at *
  rcases h7 with ⟨_, he⟩ | ⟨c, rest, hc, hch, hev⟩
  · rw [he]; exact hl
  · rw [hev, ledger_append, hl, hc, hch, freeEv_map]
    simp only [List.map_cons, List.map_nil]
    have hk : key c ∉ rest.map key := by
      intro hmem
      obtain ⟨d, hd, hkd⟩ := List.mem_map.mp hmem
      have hdis := h.disj; rw [hc] at hdis
      have hcd := (List.pairwise_cons.mp hdis).1 d hd
      have hw := h.chunks c (by rw [hc]; exact List.mem_cons_self)
      have hs := hw.size_ge
      simp only [key, Prod.mk.injEq] at hkd
      unfold Disj at hcd
      have := FS
      omega
    exact erase_all_tail (key c) (rest.map key) hk

/-- dropping the arena gives back every chunk exactly once; afterwards it holds no memory -/
theorem drop_ledger (s : St) (hl : Ledger s) : ledger [] (dropArena s).evs = [] ∧ (dropArena s).a.chunks = [] := by
  unfold Ledger at hl
  unfold dropArena
  simp only
  rw [ledger_append, hl, freeEv_map]
  exact ⟨erase_all _, trivial⟩

end Bump
