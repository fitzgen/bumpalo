import BumpVerif.Proofs.VecBasic
/-!
# RawVec capacity arithmetic: what a successful reservation guarantees

Stated once on the buffer fields (`BufOK`, `reserveGen_buf`); a represented vector (`RepB`) adds the prefix and `len ≤ capacity()`.
-/
namespace Bump.V
open Bump

theorem resizeSlots_prefix (pre rest : List (Option Elem)) (n : Nat) (h : pre.length ≤ n) :
    ∃ rest', resizeSlots (pre ++ rest) n = pre ++ rest' := by
  refine ⟨rest.take (n - pre.length) ++ List.replicate (n - (pre ++ rest).length) none, ?_⟩
  simp [resizeSlots, List.take_append, List.take_of_length_le h]

theorem length_resizeSlots (s : List (Option Elem)) (n : Nat) : (resizeSlots s n).length = n := by
  simp [resizeSlots]; omega

theorem wsub_of_le {a b : Nat} (h : b ≤ a) (ha : a < USIZE) : wsub a b = a - b := by
  unfold wsub
  have : a + USIZE - b = (a - b) + USIZE := by omega
  rw [this, Nat.add_mod_right, Nat.mod_eq_of_lt]; omega

theorem capOf_lt (c : Cfg) (v : VS) (h : v.cap < USIZE) : capOf c v < USIZE := by
  unfold capOf; split
  · simp [USIZE_MAX, USIZE]
  · exact h

theorem capOf_congr (c : Cfg) {v v' : VS} (h : v'.cap = v.cap) : capOf c v' = capOf c v := by
  simp only [capOf, h]

/-- the arena never serves more than `isize::MAX` bytes -/
def CfgOK (c : Cfg) : Prop := c.allocLimit < 2 ^ 63 ∧ c.allocLimit + c.eal ≤ 2 ^ 63

/-- `Rep` plus the machine bounds on the `cap` field -/
structure RepB (c : Cfg) (v : VS) (xs : List Elem) : Prop extends Rep c v xs where
  capLt : v.cap < USIZE
  capHalf : c.esz ≠ 0 → v.cap * 2 < USIZE

theorem newCap_eq {c : Cfg} {v : VS} {used extra newCap : Nat} {exact : Bool} (hh : v.cap * 2 < USIZE)
    (h : (if exact then checkedAdd used extra else amortizedNewCap c v used extra) = some newCap) :
    used + extra < USIZE ∧ newCap = (if exact then used + extra else max (v.cap * 2) (used + extra)) := by
  by_cases hs : used + extra < USIZE
  · cases exact
    · simp [amortizedNewCap, checkedAdd, hs, hh] at h
      exact ⟨hs, by simp [h]⟩
    · simp [checkedAdd, hs] at h
      exact ⟨hs, by simp [h]⟩
  · cases exact <;> simp [amortizedNewCap, checkedAdd, hs] at h

theorem reserveInternal_ok {c : Cfg} {v v' : VS} {used extra : Nat} {exact : Bool} (hc : CfgOK c)
    (hh : v.cap * 2 < USIZE) (he : c.esz ≠ 0)
    (h : reserveInternal c v used extra exact = .ok v') :
    v'.len = v.len ∧ v'.slots = resizeSlots v.slots v'.cap ∧ v'.cap * 2 < USIZE ∧
      v'.cap = (if exact then used + extra else max (v.cap * 2) (used + extra)) := by
  unfold reserveInternal at h
  split at h
  · cases h
  · rename_i newCap hnc
    have hn := newCap_eq hh hnc
    split at h
    · cases h
    · rename_i bytes hb
      split at h
      · cases h
      · rename_i hal
        cases h
        simp only [arrayLayout] at hb
        split at hb
        · cases hb
        · cases hb
          simp only [Bool.or_eq_true, Bool.not_eq_eq_eq_not, Bool.not_true, decide_eq_true_eq, not_or,
            Bool.not_eq_false, Nat.not_lt] at hal
          have hsz : c.esz * newCap < 2 ^ 63 := by have := hal.2; unfold CfgOK at hc; omega
          have hnc2 : newCap < 2 ^ 63 := by
            have : 1 * newCap ≤ c.esz * newCap := Nat.mul_le_mul_right _ (by omega)
            omega
          have hU : USIZE = 2 ^ 64 := rfl
          exact ⟨rfl, rfl, by simp only [hU]; omega, hn.2⟩

/-- the inlined capacity test of `reserve*` with the subtraction spelled out (`used ≤ capacity()`: it does not wrap) -/
theorem reserveGen_eq {c : Cfg} {v : VS} {used extra : Nat} {exact : Bool} (hcap : v.cap < USIZE) (hu : used ≤ capOf c v) :
    reserveGen c v used extra exact =
      if capOf c v - used ≥ extra then .ok v else reserveInternal c v used extra exact := by
  unfold reserveGen
  rw [wsub_of_le hu (capOf_lt c v hcap)]

structure BufOK (c : Cfg) (v : VS) : Prop where
  buf : c.esz ≠ 0 → v.slots.length = v.cap
  capLt : v.cap < USIZE
  capHalf : c.esz ≠ 0 → v.cap * 2 < USIZE

theorem RepB.bufOK {c v xs} (h : RepB c v xs) : BufOK c v := ⟨h.buf, h.capLt, h.capHalf⟩

theorem resizeSlots_of_le {s : List (Option Elem)} {n : Nat} (h : s.length ≤ n) :
    resizeSlots s n = s ++ List.replicate (n - s.length) none := by
  rw [resizeSlots, List.take_of_length_le h]

/-- zero-sized elements: `capacity()` is `usize::MAX`, so a request that fails the capacity test overflows -/
theorem reserveInternal_zst {c : Cfg} {v : VS} {used extra : Nat} {exact : Bool} (he : c.esz = 0) (hu : used ≤ capOf c v)
    (hs : ¬ capOf c v - used ≥ extra) : reserveInternal c v used extra exact = .error .capOverflow := by
  have hov : ¬ used + extra < USIZE := by simp only [capOf, he, ↓reduceIte, USIZE_MAX, USIZE] at *; omega
  unfold reserveInternal
  cases exact <;> simp [amortizedNewCap, checkedAdd, hov]

/-- a successful `RawVec::reserve*(used, extra)`: slots are only added, and if it grew the new capacity is `used + extra`
resp. `max(2·cap, used + extra)` -/
theorem reserveGen_buf {c : Cfg} {v v' : VS} {used extra : Nat} {exact : Bool} (hc : CfgOK c) (hb : BufOK c v)
    (hu : used ≤ capOf c v) (hr : reserveGen c v used extra exact = .ok v') :
    BufOK c v' ∧ v'.len = v.len ∧ used + extra ≤ capOf c v' ∧ (∃ R, v'.slots = v.slots ++ R) ∧
      (v' = v ∨ (c.esz ≠ 0 ∧ capOf c v < used + extra ∧
        v'.cap = (if exact then used + extra else max (v.cap * 2) (used + extra)))) := by
  rw [reserveGen_eq hb.capLt hu] at hr
  split at hr
  · cases hr
    exact ⟨hb, rfl, by omega, ⟨[], (List.append_nil _).symm⟩, Or.inl rfl⟩
  · rename_i hslow
    by_cases he : c.esz = 0
    · rw [reserveInternal_zst he hu hslow] at hr; cases hr
    · obtain ⟨hlen, hslots, hhalf, hcap⟩ := reserveInternal_ok hc (hb.capHalf he) he hr
      have hcapv : capOf c v = v.cap := by simp only [capOf, he, ↓reduceIte]
      have hge : used + extra ≤ v'.cap ∧ v.cap ≤ v'.cap := by
        rw [hcap]; cases exact <;> simp <;> omega
      refine ⟨⟨fun _ => by rw [hslots, length_resizeSlots], by omega, fun _ => hhalf⟩, hlen,
        by simp only [capOf, he, ↓reduceIte]; exact hge.1,
        ⟨_, by rw [hslots, resizeSlots_of_le (by rw [hb.buf he]; exact hge.2)]⟩, Or.inr ⟨he, by omega, hcap⟩⟩

theorem reserveGen_ok {c : Cfg} {v v' : VS} {xs : List Elem} {used extra : Nat} {exact : Bool} (hc : CfgOK c)
    (h : RepB c v xs) (hu : v.len ≤ used) (huc : used ≤ capOf c v)
    (hr : reserveGen c v used extra exact = .ok v') :
    RepB c v' xs ∧ used + extra ≤ capOf c v' ∧
      (v' = v ∨ (c.esz ≠ 0 ∧ capOf c v < used + extra ∧
        v'.cap = (if exact then used + extra else max (v.cap * 2) (used + extra)))) := by
  obtain ⟨hb, hlen, hge, ⟨R, hR⟩, hcase⟩ := reserveGen_buf hc h.bufOK huc hr
  obtain ⟨rest, hs⟩ := h.slots
  exact ⟨⟨⟨⟨rest ++ R, by rw [hR, hs, List.append_assoc]⟩, hlen.trans h.len, hb.buf, by rw [hlen]; omega⟩, hb.capLt, hb.capHalf⟩,
    hge, hcase⟩

theorem rawReserve_ok {c : Cfg} {v v' : VS} {used extra : Nat} (hr : rawReserve c v used extra = some v') :
    reserveGen c v used extra false = .ok v' := by
  unfold rawReserve at hr
  split at hr
  · cases hr; assumption
  · cases hr

theorem rawReserve_eq {c : Cfg} {v : VS} {used extra : Nat} (hcap : v.cap < USIZE) (hu : used ≤ capOf c v) :
    rawReserve c v used extra =
      if capOf c v - used ≥ extra then some v
      else (reserveInternal c v used extra false).toOption := by
  unfold rawReserve
  rw [reserveGen_eq hcap hu]
  by_cases h : capOf c v - used ≥ extra
  · rw [if_pos h, if_pos h]
  · rw [if_neg h, if_neg h]
    cases reserveInternal c v used extra false <;> rfl

theorem rawReserve_buf {c : Cfg} {v v' : VS} {used extra : Nat} (hc : CfgOK c) (hb : BufOK c v) (hu : used ≤ capOf c v)
    (hr : rawReserve c v used extra = some v') :
    BufOK c v' ∧ v'.len = v.len ∧ used + extra ≤ capOf c v' ∧ ∃ R, v'.slots = v.slots ++ R :=
  have ⟨h1, h2, h3, h4, _⟩ := reserveGen_buf hc hb hu (rawReserve_ok hr)
  ⟨h1, h2, h3, h4⟩

/-- `RawVec::reserve(len, n)`, as `Vec::reserve(n)` calls it -/
theorem rawReserve_some {c : Cfg} {v v' : VS} {xs : List Elem} {n : Nat} (hc : CfgOK c) (h : RepB c v xs)
    (hr : rawReserve c v v.len n = some v') :
    RepB c v' xs ∧ v.len + n ≤ capOf c v' ∧
      (v' = v ∨ (c.esz ≠ 0 ∧ capOf c v < v.len + n ∧ v'.cap = max (v.cap * 2) (v.len + n))) := by
  simpa using reserveGen_ok hc h (Nat.le_refl _) h.lenCap (rawReserve_ok hr)

theorem W.lt_flag (w : W) (why : String) : w.bad.length < (w.flag why).bad.length := by
  show _ < (w.bad ++ [why]).length
  rw [List.length_append]; exact Nat.lt_succ_self _

theorem rawReserve_overflow {c : Cfg} {v : VS} {n : Nat} (h1 : wsub (capOf c v) v.len < n) (h2 : USIZE ≤ v.len + n) :
    rawReserve c v v.len n = none := by
  have hc : checkedAdd v.len n = none := if_neg (Nat.not_lt.mpr h2)
  unfold rawReserve reserveGen
  rw [if_neg (Nat.not_le.mpr h1)]
  unfold reserveInternal amortizedNewCap
  rw [hc]
  rfl

theorem need_len (c : Cfg) (v : VS) (n : Nat) (w : W) (what : String) : (v.need c n w what).1.len = v.len := rfl
theorem write_len (c : Cfg) (v : VS) (i : Nat) (e : Elem) (w : W) : (v.write c i e w).1.len = v.len := rfl
theorem copy_len (c : Cfg) (v : VS) (a b n : Nat) (w : W) : (v.copy c a b n w).1.len = v.len := by
  unfold VS.copy; split <;> rfl

theorem write_with_len (c : Cfg) (v : VS) (l i : Nat) (e : Elem) (w : W) :
    ({ v with len := l } : VS).write c i e w = ({ (v.write c i e w).1 with len := l }, (v.write c i e w).2) := rfl

theorem checkedAdd_some {a b n : Nat} (h : checkedAdd a b = some n) : a + b < USIZE := by
  unfold checkedAdd at h
  split at h
  · assumption
  · cases h

theorem reserveInternal_shape {c : Cfg} {v v' : VS} {used extra : Nat} {exact : Bool}
    (h : reserveInternal c v used extra exact = .ok v') : v'.len = v.len ∧ used + extra < USIZE := by
  unfold reserveInternal at h
  split at h
  · cases h
  · rename_i nc hx
    have hs : used + extra < USIZE := by
      cases exact
      · change amortizedNewCap c v used extra = some nc at hx
        unfold amortizedNewCap at hx
        split at hx
        · cases hx
        · exact checkedAdd_some ‹_›
      · exact checkedAdd_some hx
    split at h
    · cases h
    · split at h
      · cases h
      · cases h; exact ⟨rfl, hs⟩

theorem rawReserve_some_lt {c : Cfg} {v v1 : VS} {n : Nat} (hl : v.len ≤ capOf c v) (hc : capOf c v < USIZE)
    (h : rawReserve c v v.len n = some v1) : v.len + n < USIZE ∧ v1.len = v.len := by
  unfold rawReserve reserveGen at h
  by_cases hw : wsub (capOf c v) v.len ≥ n
  · rw [if_pos hw] at h
    cases h
    rw [wsub_of_le hl hc] at hw
    exact ⟨by omega, rfl⟩
  · rw [if_neg hw] at h
    cases hr : reserveInternal c v v.len n false with
    | error e => rw [hr] at h; cases h
    | ok v' =>
      rw [hr] at h
      cases h
      exact (reserveInternal_shape hr).symm

theorem withCapacity_len {c : Cfg} {n : Nat} {v : VS} (h : withCapacity c n = some v) : v.len = 0 := by
  unfold withCapacity at h
  split at h
  · cases h
  · split at h
    · cases h; rfl
    · split at h
      · cases h
      · split at h
        · cases h
        · cases h; rfl

theorem copyFrom_len (c : Cfg) (v : VS) (src : List (Option Elem)) (dst : Nat) (w : W) : (v.copyFrom c src dst w).1.len = v.len := by
  unfold VS.copyFrom
  split
  · rfl
  · simp only [VS.need]

theorem copyFrom_with_len (c : Cfg) (v : VS) (n : Nat) (src : List (Option Elem)) (dst : Nat) (w : W) :
    ({ v with len := n } : VS).copyFrom c src dst w = ({ (v.copyFrom c src dst w).1 with len := n }, (v.copyFrom c src dst w).2) := by
  unfold VS.copyFrom
  split <;> rfl

theorem dropEach_cons (c : Cfg) (e : Elem) (es : List Elem) (w : W) :
    dropEach c (e :: es) w = if (dropElem c w e).2 then ((dropElem c w e).1, some es) else dropEach c es (dropElem c w e).1 := by
  conv => lhs; unfold dropEach

end Bump.V
