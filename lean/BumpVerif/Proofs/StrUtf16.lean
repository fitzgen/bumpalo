import BumpVerif.Proofs.StrOps
/-!
# `from_utf16_in` fails iff a lone surrogate occurs, otherwise encodes the decoded scalars
-/
namespace Bump.Str

def pairScalar (hi lo : Nat) : Char := Char.ofNat (((hi - 0xD800) * 1024 + (lo - 0xDC00)) + 0x10000)

/-- Reference meaning of a UTF-16 unit sequence (Unicode D91): every unit outside
`D800..DFFF` is a scalar, a high surrogate must be followed by a low one and the two form one
scalar; anything else is a lone surrogate (`none`). -/
def text16 : List Nat → Option (List Char)
  | [] => some []
  | [u] => if isSurrogate u then none else some [Char.ofNat u]
  | u :: u2 :: us =>
    if !(isSurrogate u) then (text16 (u2 :: us)).map (Char.ofNat u :: ·)
    else if isHigh u && isLow u2 then (text16 us).map (pairScalar u u2 :: ·)
    else none

theorem fromUtf16Fuel_spec : ∀ (f : Nat) (us : List Nat) (acc : List Char), us.length ≤ f →
    fromUtf16Fuel f us (encode acc) =
      match text16 us with
      | some cs => .ok (encode (acc ++ cs))
      | none => .err := by
  intro f
  induction f with
  | zero =>
    intro us acc h
    have : us = [] := List.eq_nil_of_length_eq_zero (by omega)
    subst this; simp [fromUtf16Fuel, text16]
  | succ f ih =>
    intro us acc h
    match us, h with
    | [], _ => simp [fromUtf16Fuel, text16]
    | [u], _ =>
      by_cases hs : isSurrogate u = true
      · simp [fromUtf16Fuel, text16, hs]
      · have hs' : isSurrogate u = false := by simpa using hs
        simp [fromUtf16Fuel, hs', text16, push_encode]
    | u :: u2 :: us, h =>
      by_cases hs : isSurrogate u = true
      · have hnot : (!isSurrogate u) = false := by simp [hs]
        simp only [fromUtf16Fuel, hnot, Bool.false_eq_true, if_false, text16]
        by_cases hge : u ≥ 0xDC00
        · have hhi : isHigh u = false := by simp [isHigh]; omega
          simp [hge, hhi]
        · have hhi : isHigh u = true := by
            simp only [isSurrogate, Bool.and_eq_true, decide_eq_true_eq] at hs
            simp only [isHigh, Bool.and_eq_true, decide_eq_true_eq]; omega
          simp only [hge, if_false, hhi, Bool.true_and]
          by_cases hlo : isLow u2 = true
          · simp only [hlo, Bool.not_true, Bool.false_eq_true, if_false, if_true, push_encode]
            have := ih us (acc ++ [pairScalar u u2]) (by simp at h; omega)
            rw [pairScalar] at this
            rw [this]
            cases text16 us <;> simp [pairScalar]
          · have hlo' : isLow u2 = false := by simpa using hlo
            simp [hlo']
      · have hs' : isSurrogate u = false := by simpa using hs
        simp only [fromUtf16Fuel, hs', Bool.not_false, if_true, text16, push_encode]
        have := ih (u2 :: us) (acc ++ [Char.ofNat u]) (by simp at h ⊢; omega)
        rw [this]
        cases text16 (u2 :: us) <;> simp

/-- **`from_utf16_in` errs iff a lone surrogate occurs, else encodes the decoded scalars** (so
its result is valid UTF-8); it never reaches a `bad` state. -/
theorem fromUtf16_spec (us : List Nat) :
    fromUtf16 us = match text16 us with
      | some cs => .ok (encode cs)
      | none => .err := by
  have := fromUtf16Fuel_spec us.length us [] (Nat.le_refl _)
  simpa [fromUtf16] using this

theorem fromUtf16_err_iff (us : List Nat) : fromUtf16 us = .err ↔ text16 us = none := by
  rw [fromUtf16_spec]; cases text16 us <;> simp

theorem fromUtf16_valid (us : List Nat) (b : Bytes) (h : fromUtf16 us = .ok b) : Valid b := by
  rw [fromUtf16_spec] at h
  cases ht : text16 us with
  | none => simp [ht] at h
  | some cs => simp [ht] at h; subst h; exact Valid_encode cs

end Bump.Str
