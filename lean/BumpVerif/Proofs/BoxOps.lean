import BumpVerif.Proofs.BoxOwn
/-!
# Box family: what each operation does (post-conditions on the model of boxed.rs)
-/
namespace Bump.Bx

/-- an operation's observable outcome: new world, result text, allocator events -/
def outcome (z : Bool) (env : Env) (op : Op) (w : W) : W × String × Nat :=
  (step z env op w, (effOf z op w).2, evtOf env (effOf z op w).1)

structure OnlySlot (w w' : W) (s : Nat) (new : Slot) (drops moved : List Nat) : Prop where
  slots : w'.slots = w.slots.set s new
  drops : w'.drops = w.drops ++ drops
  moved : w'.moved = w.moved ++ moved
  created : w'.created = w.created
  nextId : w'.nextId = w.nextId
  acct : w'.acct = w.acct

/-- the same without a statement about the arena (operations of `Vec`, which may consult the arena) -/
structure OnlySlotV (w w' : W) (s : Nat) (new : Slot) (drops moved : List Nat) : Prop where
  slots : w'.slots = w.slots.set s new
  drops : w'.drops = w.drops ++ drops
  moved : w'.moved = w.moved ++ moved
  created : w'.created = w.created
  nextId : w'.nextId = w.nextId

theorem OnlySlot.of_effOf {z : Bool} {env : Env} {op : Op} {w : W} {s : Nat} {new : Slot} {ds ms : List Nat}
    {txt : String} (h : effOf z op w = (.upd s new 0 ⟨ds, ms⟩ false, txt)) :
    OnlySlot w (step z env op w) s new ds ms := by
  unfold step
  rw [h]
  exact ⟨rfl, rfl, rfl, List.append_nil _, rfl, rfl⟩

theorem OnlySlotV.of_effOf {z : Bool} {env : Env} {op : Op} {w : W} {s : Nat} {new : Slot} {ds ms : List Nat}
    {txt : String} (h : effOf z op w = (.upd s new 0 ⟨ds, ms⟩ true, txt)) :
    OnlySlotV w (step z env op w) s new ds ms := by
  unfold step
  rw [h]
  exact ⟨rfl, rfl, rfl, List.append_nil _, rfl⟩

theorem evtOf_of_effOf {z : Bool} (env : Env) {op : Op} {w : W} {s n : Nat} {new : Slot} {fx : Fx} {txt : String}
    (h : effOf z op w = (.upd s new n fx false, txt)) : evtOf env (effOf z op w).1 = 0 := by
  rw [h]
  rfl

theorem OnlySlot.trans {w w' w'' : W} {s : Nat} {a b : Slot} (h1 : OnlySlot w w' s a [] [])
    (h2 : OnlySlot w' w'' s b [] []) : OnlySlot w w'' s b [] [] :=
  ⟨by rw [h2.slots, h1.slots, List.set_set], by rw [h2.drops, h1.drops, List.append_nil],
   by rw [h2.moved, h1.moved, List.append_nil],
   h2.created.trans h1.created, h2.nextId.trans h1.nextId, h2.acct.trans h1.acct⟩

/-- Dropping an owner other than an arena `Vec`: every cell's destructor runs once, front to back, also
past one that panics (drop glue of `[T]` goes on with the remaining elements); the call unwinds iff
the injected index is one of the cells'. -/
theorem effOf_drop (z : Bool) {w : W} {s : Nat} {sl : Slot} (pa : Option Nat) (h : w.slots[s]? = some sl)
    (ho : sl.cat = .owned) (hv : ∀ cs cap, sl ≠ .vec cs cap) :
    effOf z (.drop s pa) w = (.upd s .empty 0 ⟨sl.ids, []⟩ false,
      match pa with | some k => if k < sl.cells.length then "panic" else "ok" | none => "ok") := by
  unfold effOf
  simp only [h, ho, beq_self_eq_true, if_true, boxDrop_eq, Slot.ids, List.nil_append]
  cases pa <;> simp

/-- `box_drop`: dropping a `Box<T>` runs the value's destructor exactly once and leaves the arena alone -/
theorem box_drop (z : Bool) (env : Env) (w : W) (s tag : Nat) (c : Cell) (pa : Option Nat)
    (h : w.slots[s]? = some (.box tag c)) :
    OnlySlot w (step z env (.drop s pa) w) s .empty [c.id] [] ∧ evtOf env (effOf z (.drop s pa) w).1 = 0 ∧
    (effOf z (.drop s pa) w).2 = (if pa = some 0 then "panic" else "ok") := by
  have he := effOf_drop z pa h rfl nofun
  refine ⟨.of_effOf he, evtOf_of_effOf env he, (congrArg Prod.snd he).trans ?_⟩
  cases pa <;> simp [Slot.cells]

/-- pinned boxes, `dyn Any` boxes and boxed closures drop their one value once -/
theorem single_drop (z : Bool) (env : Env) (w : W) (s : Nat) (sl : Slot) (c : Cell) (pa : Option Nat)
    (h : w.slots[s]? = some sl) (hk : sl = .pin c ∨ (∃ t, sl = .any t c) ∨ sl = .fn c) :
    OnlySlot w (step z env (.drop s pa) w) s .empty [c.id] [] ∧ evtOf env (effOf z (.drop s pa) w).1 = 0 := by
  rcases hk with rfl | ⟨t, rfl⟩ | rfl <;>
    exact have he := effOf_drop z pa h rfl nofun; ⟨.of_effOf he, evtOf_of_effOf env he⟩

/-- dropping an arena `Vec` drops the initialised prefix once, in order; only here does the arena's
accounting move (RawVec gives its block back) -/
theorem vec_drop (z : Bool) (env : Env) (w : W) (s : Nat) (cs : List Cell) (cap : Nat) (pa : Option Nat)
    (h : w.slots[s]? = some (.vec cs cap)) :
    let w' := step z env (.drop s pa) w
    w'.slots = w.slots.set s .empty ∧ w'.drops = w.drops ++ cs.map (·.id) ∧ w'.moved = w.moved := by
  unfold step effOf; simp [h, applyEff, dropGlue_fx]

theorem effOf_intoInner (z : Bool) {w : W} {s tag : Nat} {c : Cell} (h : w.slots[s]? = some (.box tag c)) :
    effOf z (.intoInner s) w = (.upd s .empty 0 ⟨[], [c.id]⟩ false, "ok " ++ showCells z [c]) := by
  unfold effOf; simp [h]

theorem effOf_intoRaw_box (z : Bool) {w : W} {s tag : Nat} {c : Cell} (h : w.slots[s]? = some (.box tag c)) :
    effOf z (.intoRaw s) w = (.upd s (.raw tag c) 0 {} false, "ok") := by
  unfold effOf; simp [h]

theorem effOf_intoRaw_slice (z : Bool) {w : W} {s : Nat} {cs : List Cell} {cap : Option Nat}
    (h : w.slots[s]? = some (.slice cs cap)) :
    effOf z (.intoRaw s) w = (.upd s (.rawSlice cs cap) 0 {} false, "ok") := by
  unfold effOf; simp [h]

theorem effOf_fromRaw_box (z : Bool) {w : W} {s tag : Nat} {c : Cell}
    (h : w.slots[s]? = some (.raw tag c) ∨ w.slots[s]? = some (.leaked tag c)) :
    effOf z (.fromRaw s) w = (.upd s (.box tag c) 0 {} false, "ok") := by
  unfold effOf; rcases h with h | h <;> simp [h, fromRaw]

theorem effOf_fromRaw_slice (z : Bool) {w : W} {s : Nat} {cs : List Cell} {cap : Option Nat}
    (h : w.slots[s]? = some (.rawSlice cs cap) ∨ w.slots[s]? = some (.leakedSlice cs cap)) :
    effOf z (.fromRaw s) w = (.upd s (.slice cs cap) 0 {} false, "ok") := by
  unfold effOf; rcases h with h | h <;> simp [h, fromRaw]

theorem effOf_leak_box (z : Bool) {w : W} {s tag : Nat} {c : Cell} (h : w.slots[s]? = some (.box tag c)) :
    effOf z (.leak s) w = (.upd s (.leaked tag c) 0 {} false, "ok") := by
  unfold effOf; simp [h]

theorem effOf_leak_slice (z : Bool) {w : W} {s : Nat} {cs : List Cell} {cap : Option Nat}
    (h : w.slots[s]? = some (.slice cs cap)) :
    effOf z (.leak s) w = (.upd s (.leakedSlice cs cap) 0 {} false, "ok") := by
  unfold effOf; simp [h]

theorem effOf_intoPin (z : Bool) {w : W} {s : Nat} {c : Cell} (h : w.slots[s]? = some (.box 0 c)) :
    effOf z (.intoPin s) w = (.upd s (.pin c) 0 {} false, "ok") := by
  unfold effOf; simp [h]

theorem effOf_unpin (z : Bool) {w : W} {s : Nat} {c : Cell} (h : w.slots[s]? = some (.pin c)) :
    effOf z (.unpin s) w = (.upd s (.box 0 c) 0 {} false, "ok") := by
  unfold effOf; simp [h]

theorem effOf_toAny (z : Bool) {w : W} {s tag : Nat} {c : Cell} (h : w.slots[s]? = some (.box tag c)) :
    effOf z (.toAny s) w = (.upd s (.any tag c) 0 {} false, "ok") := by
  unfold effOf; simp [h]

theorem effOf_downcast (z : Bool) {w : W} {s tag : Nat} (t : Nat) {c : Cell} (h : w.slots[s]? = some (.any tag c)) :
    effOf z (.downcast s t) w =
      (.upd s (if tag = t then .box t c else .any tag c) 0 {} false, if tag = t then "Ok" else "Err") := by
  unfold effOf; simp [h]

theorem effOf_arrToSlice (z : Bool) {w : W} {s : Nat} {cs : List Cell} {cap : Option Nat}
    (h : w.slots[s]? = some (.arr cs cap)) :
    effOf z (.arrToSlice s) w = (.upd s (.slice cs cap) 0 {} false, "ok") := by
  unfold effOf; simp [h]

theorem effOf_sliceToArr (z : Bool) {w : W} {s n : Nat} {cs : List Cell} {cap : Option Nat}
    (h : w.slots[s]? = some (.slice cs cap)) (hn : n ≤ 4) :
    effOf z (.sliceToArr s n) w =
      (.upd s (if cs.length = n then .arr cs cap else .slice cs cap) 0 {} false,
        if cs.length = n then "Ok" else "Err") := by
  unfold effOf; simp [h, hn]

/-- `Vec::into_boxed_slice` / `From<Vec>`: exactly the `len` initialised elements, in order, no drop, nothing read out -/
theorem effOf_intoBoxedSlice (z : Bool) {w : W} {s : Nat} {cs : List Cell} {cap : Nat}
    (h : w.slots[s]? = some (.vec cs cap)) :
    effOf z (.intoBoxedSlice s) w = (.upd s (.slice cs (some cap)) 0 {} true, "ok") ∧
    effOf z (.fromVec s) w = (.upd s (.slice cs (some cap)) 0 {} true, "ok") := by
  unfold effOf; simp [h]

theorem effOf_sliceToVec (z : Bool) {w : W} {s : Nat} {cs : List Cell} {cap : Option Nat}
    (h : w.slots[s]? = some (.slice cs cap)) :
    effOf z (.sliceToVec s) w = (.upd s (.vec cs (if z then 2 ^ 64 - 1 else cs.length)) 0 {} false, "ok") := by
  unfold effOf; simp [h]

theorem create_empty {w : W} {s : Nat} (new : Slot) (n : Nat) (fx : Fx) (h : w.slots[s]? = some .empty) :
    create w s new n fx = (.upd s new n fx true, "ok") := by
  unfold create
  rw [h]

theorem step_create (z : Bool) (env : Env) {op : Op} {w : W} {s n : Nat} {new : Slot}
    (he : effOf z op w = create w s new n {}) (h : w.slots[s]? = some .empty) :
    let w' := step z env op w
    w'.slots = w.slots.set s new ∧ w'.drops = w.drops ∧ w'.moved = w.moved ∧
    w'.created = w.created ++ List.range' w.nextId n ∧ w'.nextId = w.nextId + n := by
  unfold step
  rw [he, create_empty _ _ _ h]
  exact ⟨rfl, List.append_nil _, List.append_nil _, rfl, rfl⟩

theorem new_in_spec (z : Bool) (env : Env) (w : W) (s x : Nat) (h : w.slots[s]? = some .empty) :
    let w' := step z env (.new s x 0) w
    w'.slots = w.slots.set s (.box 0 ⟨w.nextId, x⟩) ∧ w'.drops = w.drops ∧ w'.moved = w.moved ∧
    w'.created = w.created ++ [w.nextId] ∧ w'.nextId = w.nextId + 1 :=
  step_create z env (n := 1) rfl h

/-- operations that call `Bump::alloc*`, or are methods of `Vec` that may consult the arena -/
def Op.entersArena : Op → Bool
  | .new .. | .pin .. | .newArr .. | .fromIter .. | .vec .. | .newAny .. | .newFn .. | .newStr ..
  | .intoBoxedSlice _ | .fromVec _ | .iterProbe .. | .pollProbe _ | .hasherProbe _ => true
  | _ => false

theorem applyEff_acct (env : Env) {e : Eff} (w : W) (h : e.alloc = false) : (applyEff env e w).acct = w.acct := by
  cases e <;> (cases h; rfl)

theorem alloc_only_in_arena_calls (z : Bool) (op : Op) (w : W) (h : (effOf z op w).1.alloc = true) :
    op.entersArena = true ∨ ∃ s pa cs cap, op = .drop s pa ∧ w.slots[s]? = some (.vec cs cap) := by
  revert h
  fun_cases effOf z op w
  all_goals first
    | exact fun h => absurd h Bool.false_ne_true
    | exact fun _ => .inl rfl
    | exact fun _ => .inr ⟨_, _, _, _, rfl, ‹_›⟩

end Bump.Bx
