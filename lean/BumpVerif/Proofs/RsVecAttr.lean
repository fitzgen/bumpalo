import Lean.Meta.Tactic.Simp.RegisterCommand
/-! The simp set `rsv`: what the state-passing combinators of `Model/RsVec.lean` / `Model/RsVecM.lean` reduce to, and the translated
one-line accessors. -/
register_simp_attr rsv
