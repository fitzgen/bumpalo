import BumpVerif.Proofs.VecCore
/-!
# `with_capacity_in`, `append`, `split_off`: a fresh buffer, and `copy_nonoverlapping` into reserved room
-/
namespace Bump.V
open Bump

theorem copyFrom_end (c : Cfg) (xs ys : List Elem) (rest : List (Option Elem)) (l cp : Nat) (w : W)
    (hroom : c.esz ≠ 0 → ys.length ≤ rest.length) :
    (VS.mk (xs.map some ++ rest) l cp).copyFrom c (ys.map some) xs.length w =
      (VS.mk ((xs ++ ys).map some ++ rest.drop ys.length) l cp, w) ∧
    (ys.length ≤ rest.length → ((xs ++ ys).map some ++ rest.drop ys.length).length = (xs.map some ++ rest).length) := by
  refine ⟨?_, fun h => by simp; omega⟩
  by_cases hy : (ys.map some).isEmpty
  · have : ys = [] := by simpa using hy
    subst this; simp [VS.copyFrom]
  · have hin : xs.length + ys.length ≤ (xs.map some ++ rest).length ∨ c.esz = 0 := by
      by_cases he : c.esz = 0
      · exact Or.inr he
      · have := hroom he; left; simp; omega
    have hpad := padTo_prefix (xs.length + ys.length) (xs.map some) rest
    rw [List.length_map, Nat.add_sub_cancel_left] at hpad
    simp only [VS.copyFrom, hy, Bool.false_eq_true, ↓reduceIte, VS.need, List.length_map, hin, hpad]
    rw [← List.length_map (f := some) (as := xs), List.take_left, List.drop_length_add_append, drop_padTo]
    simp

/-- `copy_nonoverlapping(src, end, n); len += n` with capacity for `n` more -/
theorem RepB.copyFrom_len {c : Cfg} {v : VS} {xs : List Elem} (h : RepB c v xs) (ys : List Elem)
    (hroom : xs.length + ys.length ≤ capOf c v) (w : W) :
    ∃ v', v.copyFrom c (ys.map some) v.len w = (v', w) ∧ RepB c { v' with len := v'.len + ys.length } (xs ++ ys) ∧ v'.cap = v.cap := by
  rcases v with ⟨s, l, cp⟩
  obtain ⟨rest, rfl, rfl⟩ := h.toRep.nf
  have hr : c.esz ≠ 0 → ys.length ≤ rest.length := by
    intro he
    have := h.buf he
    simp only [capOf, he, ↓reduceIte, List.length_append, List.length_map] at hroom this
    omega
  obtain ⟨hcp, hl⟩ := copyFrom_end c xs ys rest xs.length cp w hr
  refine ⟨_, hcp, ?_, rfl⟩
  have := RepB.of_nf (c := c) (ys := xs ++ ys) (rest := rest.drop ys.length) (cap := cp)
    (fun he => by rw [hl (hr he)]; exact h.buf he) h.capLt h.capHalf
    (fun he => by simp only [capOf, he, ↓reduceIte] at hroom; simp; omega)
  simpa using this

theorem withCapacity_cases {c : Cfg} {n : Nat} {v : VS} (h : withCapacity c n = some v) :
    (n * c.esz = 0 ∧ v = ⟨[], 0, n⟩) ∨ (c.esz ≠ 0 ∧ n * c.esz ≤ c.allocLimit ∧ v = ⟨List.replicate n none, 0, n⟩) := by
  unfold withCapacity checkedMul at h
  by_cases hlt : n * c.esz < USIZE
  · rw [if_pos hlt] at h
    dsimp only at h
    by_cases hz : n * c.esz = 0
    · rw [if_pos hz] at h; exact Or.inl ⟨hz, (Option.some.inj h).symm⟩
    · rw [if_neg hz] at h
      split at h
      · cases h
      · split at h
        · cases h
        · rename_i hal
          simp only [Bool.or_eq_true, Bool.not_eq_eq_eq_not, Bool.not_true, decide_eq_true_eq, not_or, Bool.not_eq_false,
            Nat.not_lt] at hal
          exact Or.inr ⟨fun h0 => hz (by rw [h0, Nat.mul_zero]), hal.2, (Option.some.inj h).symm⟩
  · rw [if_neg hlt] at h; cases h

theorem withCapacity_some {c : Cfg} {n : Nat} {v : VS} (hc : CfgOK c) (hn : n < USIZE) (h : withCapacity c n = some v) :
    RepB c v [] ∧ n ≤ capOf c v ∧ v.len = 0 := by
  rcases withCapacity_cases h with ⟨hz, rfl⟩ | ⟨he, hal, rfl⟩
  · -- no buffer: `n = 0`, or the elements are zero-sized
    have hcase : c.esz ≠ 0 → n = 0 := fun he => (Nat.mul_eq_zero.mp hz).resolve_right he
    refine ⟨⟨⟨⟨[], rfl⟩, rfl, fun he => by rw [hcase he]; rfl, Nat.zero_le _⟩, hn, fun he => by rw [hcase he]; decide⟩, ?_, rfl⟩
    by_cases he : c.esz = 0
    · simp only [capOf, he, ↓reduceIte, USIZE_MAX]; simp only [USIZE] at hn; omega
    · simp only [capOf, he, ↓reduceIte]; exact Nat.le_refl _
  · have hn63 : n < 2 ^ 63 := by
      have : n * 1 ≤ n * c.esz := Nat.mul_le_mul_left _ (by omega)
      have := hc.1; omega
    exact ⟨⟨⟨⟨List.replicate n none, rfl⟩, rfl, fun _ => List.length_replicate, Nat.zero_le _⟩, hn, fun _ => by simp only [USIZE]; omega⟩,
      by simp only [capOf, he, ↓reduceIte]; exact Nat.le_refl _, rfl⟩

theorem append_unfold (c : Cfg) (a b : VS) (w : W) :
    append c a b w =
      match rawReserve c a a.len b.len with
      | none => (a, b, w, none)
      | some a1 =>
        let p := a1.copyFrom c (b.slots.take b.len) a1.len w
        ({ p.1 with len := p.1.len + b.len }, { b with len := 0 }, p.2, some ()) := by
  unfold append; rfl

theorem append_spec {c : Cfg} {a b : VS} {xs ys : List Elem} (hc : CfgOK c) (ha : RepB c a xs) (hb : RepB c b ys) (w : W) :
    (∃ a' b', append c a b w = (a', b', w, some ()) ∧ RepB c a' (xs ++ ys) ∧ RepB c b' []) ∨
    (append c a b w = (a, b, w, none) ∧ rawReserve c a a.len b.len = none) := by
  rw [append_unfold]
  cases hr : rawReserve c a a.len b.len with
  | none => right; exact ⟨rfl, rfl⟩
  | some a1 =>
    left
    obtain ⟨h1, hge, _⟩ := rawReserve_some hc ha hr
    obtain ⟨a2, hcp, hrep, _⟩ := h1.copyFrom_len ys (by rw [← ha.len, ← hb.len]; exact hge) w
    rw [hb.toRep.take_len]
    simp only [hcp, hb.len]
    exact ⟨_, _, rfl, hrep, hb.setLen (Nat.zero_le _)⟩

theorem splitOff_unfold (c : Cfg) (v : VS) (at_ : Nat) (w : W) :
    splitOff c v at_ w =
      if at_ > v.len then (v, none, w)
      else match withCapacity c (v.len - at_) with
        | none => (v, none, w)
        | some o =>
          let p := o.copyFrom c ((v.slots.drop at_).take (v.len - at_)) 0 w
          ({ v with len := at_ }, some { p.1 with len := v.len - at_ }, p.2) := by
  unfold splitOff; rfl

theorem splitOff_spec {c : Cfg} {v : VS} {xs : List Elem} (hc : CfgOK c) (h : RepB c v xs) (at_ : Nat) (w : W) :
    (at_ ≤ xs.length ∧ ∃ v' o, splitOff c v at_ w = (v', some o, w) ∧ RepB c v' (xs.take at_) ∧ RepB c o (xs.drop at_)) ∨
    (splitOff c v at_ w = (v, none, w) ∧ (xs.length < at_ ∨ withCapacity c (xs.length - at_) = none)) := by
  rw [splitOff_unfold, h.len]
  by_cases hat : at_ > xs.length
  · right; exact ⟨by rw [if_pos hat], Or.inl hat⟩
  · rw [if_neg hat]
    cases hwc : withCapacity c (xs.length - at_) with
    | none => right; exact ⟨rfl, Or.inr rfl⟩
    | some o =>
      left
      have hlenU : xs.length < USIZE := by
        have := h.lenCap; have := capOf_lt c _ h.capLt; have := h.len; omega
      obtain ⟨ho, hge, hol⟩ := withCapacity_some hc (by omega) hwc
      have hsrc : (v.slots.drop at_).take (xs.length - at_) = (xs.drop at_).map some := by
        rw [← List.drop_take, ← h.len, h.toRep.take_len, List.map_drop]
      obtain ⟨o1, hcp, hrep, _⟩ := ho.copyFrom_len (xs.drop at_) (by simpa using hge) w
      have hl : o1.len + (xs.drop at_).length = xs.length - at_ := by simpa using hrep.len
      rw [hl] at hrep
      rw [hol] at hcp
      simp only [hsrc, hcp]
      exact ⟨Nat.le_of_not_gt hat, _, _, rfl, h.setLen (Nat.le_of_not_gt hat), hrep⟩

end Bump.V
