import BumpVerif.Proofs.Inv
/-! Chunk sizing (`new_chunk_memory_details`), chunk creation (`new_chunk`) and the candidate loop of the slow path. -/
namespace Bump
open Gen

def chunkAlign (M al : Nat) : Nat := max (max CHUNK_ALIGN M) al

theorem chunkAlign_pow2 {M al} (hM : IsPow2 M) (hA : IsPow2 al) : IsPow2 (chunkAlign M al) :=
  (IsPow2.max (IsPow2.max isPow2_16 hM) hA)

theorem chunkAlign_ge16 (M al : Nat) : 16 ≤ chunkAlign M al :=
  Nat.le_trans (Nat.le_max_left 16 M) (Nat.le_max_left ..)

theorem le_chunkAlign (M al : Nat) : max al M ≤ chunkAlign M al :=
  Nat.max_le.mpr ⟨Nat.le_max_right .., Nat.le_trans (Nat.le_max_right 16 M) (Nat.le_max_left ..)⟩

theorem chunkAlign_le {M al} (hM : M ≤ 16) : chunkAlign M al ≤ 16 + al :=
  Nat.max_le.mpr ⟨Nat.max_le.mpr ⟨Nat.le_add_right .., Nat.le_trans hM (Nat.le_add_right ..)⟩, Nat.le_add_left ..⟩

structure DetailsOK (M sz al n0 : Nat) (d : Details) : Prop where
  align_eq : d.align = chunkAlign M al
  align_16 : 16 ∣ d.align
  align_al : al ∣ d.align
  nswf_al : 16 ∣ d.nswf
  size_eq : d.size = d.nswf + FOOTER_SIZE
  fits : ∃ rs, roundUpTo sz d.align = some rs ∧ rs ≤ d.nswf
  ge_req : n0 ≤ d.nswf
  lt : d.size < USIZE

theorem DetailsOK.req_le {M sz al n0 d} (hd : DetailsOK M sz al n0 d) (hM : IsPow2 M) (hA : IsPow2 al) : sz ≤ d.nswf := by
  obtain ⟨rs, hrs, hle⟩ := hd.fits
  exact Nat.le_trans (roundUpTo_some (by rw [hd.align_eq]; exact (chunkAlign_pow2 hM hA).pos) hrs).1 hle

theorem DetailsOK.nswf_le {M sz al n0 d} (hd : DetailsOK M sz al n0 d) : d.nswf ≤ d.size := by
  rw [hd.size_eq]; exact Nat.le_add_right ..

/-- How `new_chunk_memory_details` rounds the body size `n1`: below a page to the next power of
two of body plus overhead, from a page on to whole pages (`none` when that rounding overflows);
the overhead is taken off again. -/
theorem bodySize_spec {n1 n2 : Nat} (hn : n1 + OVERHEAD < USIZE)
    (h : (if n1 < TYPICAL_PAGE_SIZE then some (nextPow2 (n1 + OVERHEAD) - OVERHEAD)
          else (roundUpTo (n1 + OVERHEAD) TYPICAL_PAGE_SIZE).map (· - OVERHEAD)) = some n2) :
    n1 ≤ n2 ∧ 16 ∣ n2 ∧ n2 + 48 < USIZE := by
  have hU : USIZE = 2 ^ 64 := rfl
  rw [OV, PG] at h
  rw [OV] at hn
  split at h
  · cases h
    have hle := le_nextPow2 (n1 + 64)
    have hlt := nextPow2_lt_two_mul (n := n1 + 64) (Nat.le_add_left ..)
    have h64 : 2 ^ 6 ∣ nextPow2 (n1 + 64) := pow2_ge_dvd (Nat.le_trans (Nat.le_add_left ..) hle) (nextPow2_isPow2 _)
    generalize nextPow2 (n1 + 64) = P at hle hlt h64
    exact ⟨Nat.le_sub_of_add_le hle, Nat.dvd_sub (Nat.dvd_trans (by decide) h64) (by decide), by omega⟩
  · cases hr : roundUpTo (n1 + 64) 4096 with
    | none => rw [hr] at h; cases h
    | some r =>
      simp only [hr, Option.map_some, Option.some.injEq] at h
      subst h
      obtain ⟨q1, _, q3, q4⟩ := roundUpTo_some (by decide) hr
      exact ⟨Nat.le_sub_of_add_le q1, Nat.dvd_sub (Nat.dvd_trans (by decide) q3) (by decide), by omega⟩

theorem details_spec {M sz al : Nat} (req : Option Nat) (hM : IsPow2 M) (hMle : M ≤ 16) (hA : IsPow2 al)
    (hlay : sz + al ≤ 2 ^ 63) (hreq : req.getD DEFAULT_CHUNK_SIZE_WITHOUT_FOOTER + OVERHEAD < USIZE) :
    newChunkMemoryDetails M req sz al = .err ∨
    ∃ d, newChunkMemoryDetails M req sz al = .ok d ∧ DetailsOK M sz al (req.getD DEFAULT_CHUNK_SIZE_WITHOUT_FOOTER) d := by
  have hU : USIZE = 2 ^ 64 := rfl
  have hal := chunkAlign_pow2 (al := al) hM hA
  have hal16 := chunkAlign_ge16 M al
  have halle := chunkAlign_le (al := al) hMle
  have h16dvd : 16 ∣ chunkAlign M al := pow2_ge_dvd (k := 4) hal16 hal
  have haldvd : al ∣ chunkAlign M al := hA.dvd_of_le hal (Nat.le_max_right ..)
  obtain ⟨rs, hrs⟩ := roundUpTo_isSome (n := sz) (d := chunkAlign M al) (by omega)
  obtain ⟨_, r2, _, _⟩ := roundUpTo_some hal.pos hrs
  unfold newChunkMemoryDetails
  simp only [show max (max CHUNK_ALIGN M) al = chunkAlign M al from rfl, hrs]
  generalize req.getD DEFAULT_CHUNK_SIZE_WITHOUT_FOOTER = n0 at hreq ⊢
  have hn1 : max n0 rs + OVERHEAD < USIZE := by rw [OV] at hreq ⊢; omega
  rw [if_neg (Nat.not_le.mpr hn1)]
  split
  · exact Or.inl rfl
  · rename_i n2 hb
    obtain ⟨b1, b2, b3⟩ := bodySize_spec hn1 hb
    rw [CA, if_neg (not_or.mpr ⟨not_not_intro (Nat.mod_eq_zero_of_dvd h16dvd), not_not_intro (Nat.mod_eq_zero_of_dvd b2)⟩),
      checkedAdd, FS, if_pos b3]
    exact Or.inr ⟨_, rfl, rfl, h16dvd, haldvd, b2, rfl, ⟨rs, hrs, Nat.le_trans (Nat.le_max_right ..) b1⟩,
      Nat.le_trans (Nat.le_max_left ..) b1, b3⟩

def AllRefused (evs : List Ev) : Prop := ∀ e ∈ evs, ∃ sz al, e = .malloc sz al none

theorem AllRefused.nil : AllRefused [] := by intro e he; cases he
theorem AllRefused.append {a b} (ha : AllRefused a) (hb : AllRefused b) : AllRefused (a ++ b) := by
  intro e he; rcases List.mem_append.mp he with h | h
  · exact ha e h
  · exact hb e h
theorem AllRefused.single (sz al : Nat) : AllRefused [.malloc sz al none] := by
  intro e he; simp at he; exact ⟨sz, al, he⟩

structure FreshChunk (E : Nat) (held : List Chunk) (M : Nat) (d : Details) (prevAb : Nat) (c : Chunk) : Prop where
  wf : ChunkWF M c
  size_eq : c.size = d.size
  align_eq : c.align = d.align
  ptr_eq : c.ptr = c.footer
  nswf_eq : c.footer = c.data + d.nswf
  nswf_pos : 0 < d.nswf
  ab_eq : c.ab = prevAb + d.nswf
  al_dvd : d.align ∣ c.data
  disj : ∀ h ∈ held, Disj c.data c.size h.data h.size
  sdisj : Disj c.data c.size E FOOTER_SIZE
  total : sumSize held + c.size ≤ 2 ^ 63

theorem malloc_fst (s : St) (size align : Nat) :
    (s.malloc size align).1.a = s.a ∧ (s.malloc size align).1.mem = s.mem ∧
    (s.malloc size align).1.evs = s.evs ++ [.malloc size align (s.malloc size align).2] := by
  unfold St.malloc; cases s.ans <;> simp

theorem mallocOK_iff {E held size align addr} :
    mallocOK E held size align addr = true ↔
      addr ≠ 0 ∧ addr % align = 0 ∧ addr + size ≤ 2 ^ 63 ∧ Disj addr size E FOOTER_SIZE ∧
      (∀ c ∈ held, Disj addr size c.data c.size) ∧ sumSize held + size ≤ 2 ^ 63 := by
  simp only [mallocOK, Bool.and_eq_true, decide_eq_true_eq, Bool.or_eq_true, List.all_eq_true, Disj, and_assoc]

theorem freshChunk_mk {E held M d prevAb sz al n0 addr} (hM : IsPow2 M) (hMle : M ≤ 16) (hd : DetailsOK M sz al n0 d)
    (hpos : 0 < d.nswf) (hok : mallocOK E held d.size d.align addr = true) :
    M ∣ addr + d.nswf ∧ 16 ∣ addr + d.nswf ∧ addr + d.nswf < 2 ^ 63 ∧
    FreshChunk E held M d prevAb ⟨addr, d.size, d.align, addr + d.nswf, prevAb + d.nswf⟩ := by
  obtain ⟨k1, k2, k3, k4, k5, k6⟩ := mallocOK_iff.mp hok
  have h16a : 16 ∣ addr := Nat.dvd_trans hd.align_16 (Nat.dvd_of_mod_eq_zero k2)
  have hf16 : 16 ∣ addr + d.nswf := Nat.dvd_add h16a hd.nswf_al
  have hfM : M ∣ addr + d.nswf := Nat.dvd_trans (hM.dvd_of_le isPow2_16 hMle) hf16
  have hsz := hd.size_eq
  have hfoot : (⟨addr, d.size, d.align, addr + d.nswf, prevAb + d.nswf⟩ : Chunk).footer = addr + d.nswf := by
    rw [Chunk.footer, hsz, Nat.add_sub_cancel]
  have hus : d.size - FOOTER_SIZE = d.nswf := by rw [hsz, Nat.add_sub_cancel]
  refine ⟨hfM, hf16, by rw [FS] at hsz; omega, ?_⟩
  exact {
    wf := ⟨by rw [hsz]; exact Nat.le_add_left .., Nat.pos_of_ne_zero k1, h16a, by rw [hus]; exact hd.nswf_al,
           Nat.le_add_right .., Nat.le_of_eq hfoot.symm, hfM, k3⟩
    size_eq := rfl, align_eq := rfl, ptr_eq := hfoot.symm, nswf_eq := hfoot, nswf_pos := hpos, ab_eq := rfl
    al_dvd := Nat.dvd_of_mod_eq_zero k2, disj := k5, sdisj := k4, total := k6 }

theorem newChunk_spec {E held M d reqSz prevAb sz al n0} (s : St)
    (hM : IsPow2 M) (hMle : M ≤ 16) (hd : DetailsOK M sz al n0 d) (hpos : 0 < d.nswf)
    (hreq : reqSz ≤ d.size) (hprev : prevAb ≤ sumSize held) :
    ∃ s' o, newChunk E held M d reqSz prevAb s = (s', o) ∧ s'.a = s.a ∧ s'.mem = s.mem ∧
    ((o = .ok none ∧ ∃ refs, s'.evs = s.evs ++ refs ∧ AllRefused refs) ∨
     (o = .envBad) ∨
     (∃ c, o = .ok (some c) ∧ FreshChunk E held M d prevAb c ∧
        s'.evs = s.evs ++ [.malloc c.size c.align (some c.data)])) := by
  unfold newChunk
  by_cases hv : validLayout d.size d.align = true
  · rw [hv, Bool.not_true, if_neg Bool.false_ne_true, if_neg (Nat.not_lt.mpr hreq)]
    obtain ⟨m1, m2, m3⟩ := malloc_fst s d.size d.align
    generalize s.malloc d.size d.align = r at m1 m2 m3
    obtain ⟨s1, _ | addr⟩ := r
    · exact ⟨s1, _, rfl, m1, m2, Or.inl ⟨rfl, _, m3, AllRefused.single _ _⟩⟩
    · simp only
      by_cases hok : mallocOK E held d.size d.align addr = true
      · obtain ⟨hfM, hf16, hlt, hfc⟩ := freshChunk_mk (prevAb := prevAb) hM hMle hd hpos hok
        have hmod : (addr + d.nswf) % M = 0 := Nat.mod_eq_zero_of_dvd hfM
        have hab : prevAb + d.nswf < USIZE :=
          Nat.lt_of_le_of_lt (Nat.le_trans (Nat.add_le_add hprev hd.nswf_le) hfc.total) (by decide)
        rw [hok, Bool.not_true, if_neg Bool.false_ne_true, CA, if_neg (not_not_intro (Nat.mod_eq_zero_of_dvd hf16)),
          hmod, wsub_eq (Nat.zero_le _) (Nat.lt_trans hlt (by decide)), Nat.sub_zero,
          if_neg (not_or.mpr ⟨not_not_intro hmod, not_or.mpr ⟨not_not_intro (Nat.lt_add_of_pos_right hpos),
            not_not_intro (Nat.add_sub_cancel_left ..)⟩⟩),
          if_neg (Nat.not_le.mpr hab)]
        exact ⟨s1, _, rfl, m1, m2, Or.inr (Or.inr ⟨_, rfl, hfc, m3⟩)⟩
      · rw [Bool.not_eq_true] at hok
        rw [hok, Bool.not_false, if_pos rfl]
        exact ⟨s1, _, rfl, m1, m2, Or.inr (Or.inl rfl)⟩
  · rw [Bool.not_eq_true] at hv
    rw [hv, Bool.not_false, if_pos rfl]
    exact ⟨s, _, rfl, rfl, rfl, Or.inl ⟨rfl, [], (List.append_nil _).symm, AllRefused.nil⟩⟩

/-- `n0 = base / 2 ^ k` is the candidate after `k` halvings. -/
structure SlowPost (E : Nat) (held : List Chunk) (M ab sz al : Nat) (rem : Option Nat) (base : Nat) (s s' : St)
    (o : Outcome (Option Chunk)) : Prop where
  a_eq : s'.a = s.a
  mem_eq : s'.mem = s.mem
  cases : (o = .ok none ∧ ∃ refs, s'.evs = s.evs ++ refs ∧ AllRefused refs) ∨ o = .envBad ∨
    (∃ c d n0 refs, o = .ok (some c) ∧ DetailsOK M sz al n0 d ∧ FreshChunk E held M d ab c ∧
      (∃ k, n0 = base / 2 ^ k) ∧
      fitsUnderLimit rem d = true ∧ AllRefused refs ∧
      s'.evs = s.evs ++ refs ++ [.malloc c.size c.align (some c.data)])

theorem candidate_pos {limit ab sz base minNew} (hmin : 1 ≤ minNew)
    (h : (decide (base ≥ minNew) || bypassMin limit ab sz base) = true) : 1 ≤ base := by
  rw [Bool.or_eq_true, decide_eq_true_eq] at h
  rcases h with h | h
  · exact Nat.le_trans hmin h
  · unfold bypassMin at h
    cases limit with
    | none => cases h
    | some lim => simp only [Bool.and_eq_true, decide_eq_true_eq] at h; omega

theorem SlowPost.stop {E held M ab sz al rem base s} : SlowPost E held M ab sz al rem base s s (.ok none) :=
  ⟨rfl, rfl, Or.inl ⟨rfl, [], (List.append_nil _).symm, AllRefused.nil⟩⟩

/-- a candidate that yields no chunk: refused by the allocator, or over the limit -/
theorem SlowPost.halve {E held M ab sz al rem base s s1 s' o refs} (ha : s1.a = s.a) (hm : s1.mem = s.mem)
    (hev : s1.evs = s.evs ++ refs) (hrf : AllRefused refs)
    (r : SlowPost E held M ab sz al rem (base / 2) s1 s' o) : SlowPost E held M ab sz al rem base s s' o := by
  refine ⟨r.a_eq.trans ha, r.mem_eq.trans hm, ?_⟩
  rcases r.cases with ⟨h1, refs', h2, h3⟩ | h1 | ⟨c, d, n0, refs', h1, h2, h3, ⟨k, hk⟩, h4, h5, h6⟩
  · exact Or.inl ⟨h1, refs ++ refs', by rw [h2, hev, List.append_assoc], hrf.append h3⟩
  · exact Or.inr (Or.inl h1)
  · exact Or.inr (Or.inr ⟨c, d, n0, refs ++ refs', h1, h2, h3,
      ⟨k + 1, by rw [hk, Nat.div_div_eq_div_mul, Nat.pow_succ, Nat.mul_comm]⟩, h4, hrf.append h5,
      by rw [h6, hev]; simp only [List.append_assoc]⟩)

theorem slowLoop_spec {E held M limit ab sz al rem minNew}
    (hM : IsPow2 M) (hMle : M ≤ 16) (hA : IsPow2 al) (hlay : sz + al ≤ 2 ^ 63)
    (hmin : 1 ≤ minNew) (hab : ab ≤ sumSize held) :
    ∀ fuel base (s : St), base < 2 ^ fuel → base + OVERHEAD < USIZE →
      SlowPost E held M ab sz al rem base s
        (slowLoop E held M limit ab sz al rem minNew (fuel + 1) base s).1
        (slowLoop E held M limit ab sz al rem minNew (fuel + 1) base s).2 := by
  intro fuel
  induction fuel with
  | zero =>
    intro base s hb _
    unfold slowLoop
    rw [if_neg (fun hc => by have := candidate_pos hmin hc; omega)]
    exact .stop
  | succ n ih =>
    intro base s hb hbl
    unfold slowLoop
    by_cases hc : (decide (base ≥ minNew) || bypassMin limit ab sz base) = true
    · rw [if_pos hc]
      have hbase1 := candidate_pos hmin hc
      have hrec := fun s1 => ih (base / 2) s1 (Nat.div_lt_of_lt_mul (Nat.pow_succ' ▸ hb))
        (Nat.lt_of_le_of_lt (Nat.add_le_add_right (Nat.div_le_self ..) _) hbl)
      rcases details_spec (some base) hM hMle hA hlay hbl with he | ⟨d, hde, hd⟩
      · rw [he]; exact .stop
      · rw [hde]
        simp only
        have hd : DetailsOK M sz al base d := hd
        by_cases hfit : fitsUnderLimit rem d = true
        · rw [if_pos hfit]
          have hpos : 0 < d.nswf := Nat.lt_of_lt_of_le hbase1 hd.ge_req
          have hreq : sz ≤ d.size := Nat.le_trans (hd.req_le hM hA) hd.nswf_le
          obtain ⟨s1, o1, hnc, sa, sm, sc⟩ :=
            newChunk_spec (E := E) (held := held) (reqSz := sz) (prevAb := ab) s hM hMle hd hpos hreq hab
          rw [hnc]
          rcases sc with ⟨rfl, refs, hev, hrf⟩ | rfl | ⟨c, rfl, hfc, hev⟩
          · exact (hrec s1).halve sa sm hev hrf
          · exact ⟨sa, sm, Or.inr (Or.inl rfl)⟩
          · exact ⟨sa, sm, Or.inr (Or.inr ⟨c, d, base, [], rfl, hd, hfc, ⟨0, (Nat.div_one _).symm⟩, hfit, AllRefused.nil,
              by rw [List.append_nil]; exact hev⟩)⟩
        · rw [if_neg hfit]
          exact (hrec s).halve rfl rfl (List.append_nil _).symm AllRefused.nil
    · rw [if_neg hc]; exact .stop

end Bump
