import BumpVerif.Proofs.Step
/-!
# C10: uniform histories tile the used parts exactly

If every allocation has the same alignment `A` (`MIN_ALIGN ≤ A ≤ 16`) and a size that is a
multiple of `A`, then in every chunk the bytes of the live blocks that lie in its used part add
up to exactly the length of the used part `[finger, footer)`.  Together with C01 (the blocks are
inside the used part and pairwise disjoint) this says the slice yielded by chunk iteration is
exactly the concatenation of the live objects: no byte before, between or after them.
-/
namespace Bump
open Gen

theorem uniform_no_padding (M : Nat) (c : Chunk) (sz A : Nat) (hA : IsPow2 A) (hMA : M ≤ A) (hA16 : A ≤ 16)
    (hdp : c.data ≤ c.ptr) (hptr : c.ptr < 2 ^ 63) (hAp : A ∣ c.ptr) (hAs : A ∣ sz) (hfit : sz ≤ c.ptr - c.data) :
    allocFast M c sz A = some (c.ptr - sz) := by
  have hroom : c.data + sz ≤ c.ptr := Nat.add_le_of_le_sub' hdp hfit
  have hru : roundUpTo sz A = some sz :=
    roundUpTo_of_dvd hA.pos hAs (by have : USIZE = 2 ^ 64 := rfl; omega)
  rcases Nat.lt_or_eq_of_le hMA with h | rfl
  · rw [allocFast_big_eq c sz h hptr, hru, roundDownTo_of_dvd hAp]
    exact if_pos hroom
  · rw [allocFast_small_eq c sz (Nat.le_refl _) hdp hptr, hru]
    exact if_pos hroom

theorem uniform_first_in_chunk {M : Nat} {c : Chunk} (sz A : Nat) (hw : ChunkWF M c) (hfresh : c.ptr = c.footer)
    (hA : IsPow2 A) (hMA : M ≤ A) (hA16 : A ≤ 16) (hAs : A ∣ sz) (hfit : sz ≤ c.footer - c.data) :
    allocFast M c sz A = some (c.footer - sz) := by
  have hAp : A ∣ c.ptr := by rw [hfresh]; exact Nat.dvd_trans (hA.dvd_of_le isPow2_16 hA16) (footer_al hw)
  rw [uniform_no_padding M c sz A hA hMA hA16 hw.ptr_ge hw.ptr_lt hAp hAs (by rw [hfresh]; exact hfit), hfresh]

def inUsed (c : Chunk) (b : Block) : Bool := decide (c.ptr ≤ b.ptr) && decide (b.ptr + b.size ≤ c.footer)

def liveBytesIn (c : Chunk) (live : List Block) : Nat := (live.map fun b => if inUsed c b then b.size else 0).sum

theorem inUsed_iff {c : Chunk} {b : Block} : inUsed c b = true ↔ c.ptr ≤ b.ptr ∧ b.ptr + b.size ≤ c.footer := by
  simp only [inUsed, Bool.and_eq_true, decide_eq_true_eq]

structure Tiled (A : Nat) (cs : List Chunk) (live : List Block) : Prop where
  finger_al : ∀ c ∈ cs, A ∣ c.ptr
  exact : ∀ c ∈ cs, liveBytesIn c live = c.footer - c.ptr

theorem Tiled.nil (A : Nat) (live : List Block) : Tiled A [] live :=
  ⟨fun _ h => (List.not_mem_nil h).elim, fun _ h => (List.not_mem_nil h).elim⟩

theorem Tiled.cons {A c cs live} (hal : A ∣ c.ptr) (hex : liveBytesIn c live = c.footer - c.ptr) (ht : Tiled A cs live) :
    Tiled A (c :: cs) live :=
  ⟨List.forall_mem_cons.mpr ⟨hal, ht.finger_al⟩, List.forall_mem_cons.mpr ⟨hex, ht.exact⟩⟩

theorem liveBytesIn_append (c : Chunk) (l1 l2 : List Block) :
    liveBytesIn c (l1 ++ l2) = liveBytesIn c l1 + liveBytesIn c l2 := by
  simp [liveBytesIn, List.map_append, List.sum_append]

theorem liveBytesIn_nil (c : Chunk) : liveBytesIn c [] = 0 := rfl

theorem liveBytesIn_congr (c c' : Chunk) (live : List Block)
    (h : ∀ b ∈ live, 0 < b.size → inUsed c b = inUsed c' b) : liveBytesIn c live = liveBytesIn c' live := by
  unfold liveBytesIn
  congr 1
  refine List.map_congr_left fun b hb => ?_
  rcases Nat.eq_zero_or_pos b.size with h0 | hpos
  · simp [h0]
  · rw [h b hb hpos]

theorem liveBytesIn_zero (c : Chunk) (live : List Block) (h : ∀ b ∈ live, 0 < b.size → inUsed c b = false) :
    liveBytesIn c live = 0 := by
  refine List.sum_eq_zero_iff_forall_eq_nat.mpr fun x hx => ?_
  obtain ⟨b, hb, rfl⟩ := List.mem_map.mp hx
  rcases Nat.eq_zero_or_pos b.size with h0 | hpos
  · simp [h0]
  · rw [h b hb hpos]; rfl

theorem not_inUsed_of_disj {M M'} {c x : Chunk} {b : Block} (hc : ChunkWF M c) (hx : ChunkWF M' x)
    (hd : Disj c.data c.size x.data x.size) (h1 : c.data ≤ b.ptr) (h2 : b.ptr + b.size ≤ c.footer) (hpos : 0 < b.size) :
    inUsed x b = false := by
  refine Bool.eq_false_iff.mpr fun hq => ?_
  rw [inUsed_iff] at hq
  have f1 := footer_add hc; have f2 := footer_add hx
  have := hx.ptr_ge
  unfold Disj at hd
  omega

theorem inUsed_unique {E a c b} (wf : ArenaWF E a) (hc : c ∈ a.chunks) (hin : InChunk a b.ptr b.size) (hpos : 0 < b.size)
    (hu : inUsed c b = true) : ∃ d ∈ a.chunks, d.data = c.data ∧ d.size = c.size ∧ d.ptr ≤ b.ptr ∧ b.ptr + b.size ≤ d.footer := by
  obtain ⟨d, hd, h1, h2⟩ := hin
  rw [inUsed_iff] at hu
  have e := chunk_of_point wf hd hc (x := b.ptr)
    ⟨Nat.le_trans (wf.chunks d hd).ptr_ge h1, Nat.le_trans (Nat.le_add_right _ _) h2⟩
    ⟨Nat.le_trans (wf.chunks c hc).ptr_ge hu.1, Nat.le_trans (Nat.le_add_right _ _) hu.2⟩
  exact ⟨d, hd, by rw [e], by rw [e], h1, h2⟩

theorem liveBytesIn_fresh_zero {E} {s : St} {live : List Block} {M : Nat} (C : Chunk) (inv : LiveInv E ⟨s, live⟩)
    (hwC : ChunkWF M C) (hdis : ∀ h ∈ s.a.chunks, Disj C.data C.size h.data h.size) : liveBytesIn C live = 0 := by
  refine liveBytesIn_zero _ _ fun b hb hpos => ?_
  obtain ⟨d, hd, h1, h2⟩ := (inv.blocks b hb).2.2.2.resolve_left (by omega)
  exact not_inUsed_of_disj (inv.wf.chunks d hd) hwC (Or.symm (hdis d hd)) (by have := (inv.wf.chunks d hd).ptr_ge; omega) h2 hpos

theorem A_dvd_footer {M c A} (hw : ChunkWF M c) (hA : IsPow2 A) (hA16 : A ≤ 16) : A ∣ c.footer :=
  Nat.dvd_trans (hA.dvd_of_le isPow2_16 hA16) (footer_al hw)

/-- The other live blocks do not overlap the new one, so those that were above the finger are the
same as before. -/
theorem liveBytesIn_push {c : Chunk} {p sz : Nat} {live : List Block} (hp : p + sz = c.ptr) (hle : c.ptr ≤ c.footer)
    (hno : ∀ b ∈ live, NoOverlap b ⟨p, sz⟩) :
    liveBytesIn { c with ptr := p } (live ++ [⟨p, sz⟩]) = liveBytesIn c live + sz := by
  rw [liveBytesIn_append]
  congr 1
  · refine liveBytesIn_congr _ _ _ fun b hb hpos => Bool.eq_iff_iff.mpr ?_
    have := hno b hb
    rw [inUsed_iff, inUsed_iff]
    unfold NoOverlap Disj at this
    show p ≤ b.ptr ∧ b.ptr + b.size ≤ c.footer ↔ _
    simp only at this
    omega
  · have : inUsed { c with ptr := p } ⟨p, sz⟩ = true := inUsed_iff.mpr ⟨Nat.le_refl _, by show p + sz ≤ c.footer; omega⟩
    simp [liveBytesIn, this]

theorem liveBytesIn_single_zero {x : Chunk} {b : Block} (h : 0 < b.size → inUsed x b = false) : liveBytesIn x [b] = 0 :=
  liveBytesIn_zero _ _ fun b' hb' hpos => by rw [List.mem_singleton.mp hb'] at hpos ⊢; exact h hpos

theorem tiled_alloc_head {A sz p} {c : Chunk} {cs : List Chunk} {live : List Block} (ht : Tiled A (c :: cs) live)
    (hp : p + sz = c.ptr) (hle : c.ptr ≤ c.footer) (hA : A ∣ sz) (hno : ∀ b ∈ live, NoOverlap b ⟨p, sz⟩)
    (hoth : ∀ x ∈ cs, 0 < sz → inUsed x ⟨p, sz⟩ = false) :
    Tiled A ({ c with ptr := p } :: cs) (live ++ [⟨p, sz⟩]) := by
  obtain ⟨hAc, hal⟩ := List.forall_mem_cons.mp ht.finger_al
  obtain ⟨hex, hexs⟩ := List.forall_mem_cons.mp ht.exact
  refine .cons ?_ ?_ ⟨hal, fun x hx => ?_⟩
  · show A ∣ p
    rw [show p = c.ptr - sz by omega]; exact Nat.dvd_sub hAc hA
  · rw [liveBytesIn_push hp hle hno, hex]
    show c.footer - c.ptr + sz = c.footer - p
    omega
  · rw [liveBytesIn_append, liveBytesIn_single_zero (hoth x hx), hexs x hx]; rfl

theorem tiled_push_empty {E A M} {s : St} {live : List Block} {C : Chunk} (inv : LiveInv E ⟨s, live⟩)
    (hwC : ChunkWF M C) (ht : Tiled A s.a.chunks live) (hpf : C.ptr = C.footer)
    (hdis : ∀ h ∈ s.a.chunks, Disj C.data C.size h.data h.size) (hAp : IsPow2 A) (hA16 : A ≤ 16) :
    Tiled A (C :: s.a.chunks) live := by
  refine .cons ?_ ?_ ht
  · rw [hpf]; exact A_dvd_footer hwC hAp hA16
  · rw [liveBytesIn_fresh_zero _ inv hwC hdis, hpf, Nat.sub_self]

structure UniformReq (M A sz : Nat) : Prop where
  pow : IsPow2 A
  ge : M ≤ A
  le : A ≤ 16
  dvd : A ∣ sz
  lay : sz + A ≤ 2 ^ 63

theorem uniform_served {E A sz p} {s s' : St} {live : List Block} (inv : LiveInv E ⟨s, live⟩)
    (ht : Tiled A s.a.chunks live) (hu : UniformReq s.a.M A sz) (sp : AllocPost E s s' sz A (.ok p)) :
    s'.a.chunks = [] ∨ ∃ c cs, s'.a.chunks = { c with ptr := p } :: cs ∧ ChunkWF s.a.M c ∧ p + sz = c.ptr ∧
      c.data ≤ p ∧ Tiled A (c :: cs) live := by
  rcases alloc_served inv.wf sp with ⟨hn, ha⟩ | ⟨c, cs, hc', hwc, haf, hcase⟩
  · exact .inl (by rw [ha, hn])
  · have ht0 : Tiled A (c :: cs) live := by
      rcases hcase with hc | ⟨rfl, hpf, hdis⟩
      · exact hc ▸ ht
      · exact tiled_push_empty inv hwc ht hpf hdis hu.pow hu.le
    obtain ⟨b1, b2, _, _⟩ := allocFast_ok s.a.M c sz A p inv.wf.mpow hu.pow hwc.ptr_ge hwc.ptr_lt hwc.ptr_al haf
    rw [uniform_no_padding s.a.M c sz A hu.pow hu.ge hu.le hwc.ptr_ge hwc.ptr_lt (ht0.finger_al c List.mem_cons_self) hu.dvd
      (by omega)] at haf
    exact .inr ⟨c, cs, hc', hwc, by cases haf; omega, b1, ht0⟩

theorem tiled_alloc {E A sz p} {s s' : St} {live : List Block} (hE : EnvOK E) (inv : LiveInv E ⟨s, live⟩)
    (ht : Tiled A s.a.chunks live) (hu : UniformReq s.a.M A sz) (sp : AllocPost E s s' sz A (.ok p)) :
    Tiled A s'.a.chunks (live ++ [⟨p, sz⟩]) := by
  rcases uniform_served inv ht hu sp with hn | ⟨c, cs, hc', hwc, hp, hge, ht0⟩
  · rw [hn]; exact .nil _ _
  · have inv' := allocPost_live hE inv sp rfl
    have hmem : ({ c with ptr := p } : Chunk) ∈ s'.a.chunks := by rw [hc']; exact List.mem_cons_self
    have hd := inv'.wf.disj
    rw [hc'] at hd ⊢
    refine tiled_alloc_head ht0 hp hwc.ptr_le hu.dvd (fun b hb => (List.pairwise_append.mp inv'.disj).2.2 b hb _ List.mem_cons_self)
      fun x hx hpos => ?_
    exact not_inUsed_of_disj (inv'.wf.chunks _ hmem) (inv'.wf.chunks x (by rw [hc']; exact List.mem_cons_of_mem _ hx))
      ((List.pairwise_cons.mp hd).1 x hx) hge (by have := hwc.ptr_le; show p + sz ≤ c.footer; omega) hpos

/-- reserve a uniform block and give it straight back (a failed slice fill) -/
theorem tiled_alloc_dealloc {E A sz p} {s s' : St} {live : List Block} (inv : LiveInv E ⟨s, live⟩)
    (ht : Tiled A s.a.chunks live) (hu : UniformReq s.a.M A sz) (sp : AllocPost E s s' sz A (.ok p)) :
    Tiled A (dealloc E p sz s').1.a.chunks live := by
  rcases uniform_served inv ht hu sp with hn | ⟨c, cs, hc', hwc, hp, hge, ht0⟩
  · rw [dealloc_nil s' hn, hn]; exact .nil _ _
  · have hU : USIZE = 2 ^ 64 := rfl
    have hlt : c.ptr + (s.a.M - 1) < 2 ^ 63 + 16 := by
      have := hwc.ptr_lt; have : s.a.M ≤ 16 := inv.wf.mle; omega
    have hr : roundUpTo (p + sz) s'.a.M = some c.ptr := by
      rw [sp.m_eq, hp]; exact roundUpTo_of_dvd inv.wf.m_pos hwc.ptr_al (by omega)
    rw [dealloc_last (p := p) s' hc' rfl (by omega) hr (by rw [sp.m_eq]; exact Nat.mod_eq_zero_of_dvd hwc.ptr_al)]
    exact ht0

/-- the operations of a uniform history (alignment `A` everywhere, sizes multiples of `A`):
allocations of every flavour, fallible initialisers that allocate nothing themselves, slice
fills and fallible slice fills, `reset`, limit changes -/
def UniformOp (M A : Nat) : Op → Prop
  | .alloc sz al _ => al = A ∧ UniformReq M A sz
  | .array esz eal _ _ => eal = A ∧ IsPow2 A ∧ M ≤ A ∧ A ≤ 16 ∧ A ∣ esz
  | .atw sz al _ inner _ => al = A ∧ UniformReq M A sz ∧ inner = []
  | .tfill esz eal _ _ => eal = A ∧ IsPow2 A ∧ M ≤ A ∧ A ≤ 16 ∧ A ∣ esz
  | .reset => True
  | .limit _ => True
  | _ => False

theorem tiled_reset {E A} (s : St) (h : ArenaWF E s.a) (hA : IsPow2 A) (hA16 : A ≤ 16) : Tiled A (reset s).1.a.chunks [] := by
  obtain ⟨_, _, _, _, _, h7⟩ := reset_spec s h
  rcases h7 with ⟨hn, he⟩ | ⟨c, rest, hc, hch, _⟩
  · rw [he, hn]; exact .nil _ _
  · rw [hch]
    exact .cons (A_dvd_footer (h.chunks c (by rw [hc]; exact List.mem_cons_self)) hA hA16) (Nat.sub_self _).symm (.nil _ _)

theorem tiled_alloc_step {E A op sz} {y : Sys} {s' : St} {o : Outcome Nat} (hE : EnvOK E) (inv : LiveInv E y)
    (ht : Tiled A y.st.a.chunks y.live) (hu : UniformReq y.st.a.M A sz) (sp : AllocPost E y.st s' sz A o)
    (hne : Res.ofOutcome Res.ptr o ≠ .envBad)
    (hok : ∀ p, o = .ok p → liveAfter y.live op (.ptr p) = y.live ++ [⟨p, sz⟩])
    (herr : liveAfter y.live op .err = y.live) (hpanic : liveAfter y.live op .panic = y.live) :
    Tiled A s'.a.chunks (liveAfter y.live op (Res.ofOutcome Res.ptr o)) := by
  cases o with
  | ok p => show Tiled A _ (liveAfter y.live op (.ptr p)); rw [hok p rfl]; exact tiled_alloc hE inv ht hu sp
  | err => show Tiled A _ (liveAfter y.live op .err); rw [herr, (sp.fail (.inl rfl)).1]; exact ht
  | panic => show Tiled A _ (liveAfter y.live op .panic); rw [hpanic, (sp.fail (.inr rfl)).1]; exact ht
  | bad w => exact absurd rfl (sp.nobad w)
  | envBad => exact absurd rfl hne

theorem tiled_step {E A} (hE : EnvOK E) (hA : IsPow2 A) (hA16 : A ≤ 16) (y : Sys) (op : Op) (inv : LiveInv E y)
    (ht : Tiled A y.st.a.chunks y.live) (hu : UniformOp y.st.a.M A op) (hne : (sysStep E op y).2 ≠ .envBad) :
    Tiled A (sysStep E op y).1.st.a.chunks (sysStep E op y).1.live := by
  obtain ⟨s, live⟩ := y
  replace hne : (step E op s).2 ≠ .envBad := hne
  show Tiled A (step E op s).1.a.chunks (liveAfter live op (step E op s).2)
  cases op with
  | alloc sz al f =>
    obtain ⟨rfl, hreq⟩ := hu
    exact tiled_alloc_step hE inv ht hreq (allocMaybe_spec f s hE inv.wf hreq.pow hreq.lay) hne (fun _ _ => rfl) rfl rfl
  | array esz eal n f =>
    obtain ⟨rfl, hp, hge, hle, hd⟩ := hu
    cases hla : arrayLayout esz eal n with
    | none => simp only [step, hla]; cases f <;> exact ht
    | some total =>
      obtain ⟨rfl, hlay⟩ := arrayLayout_some (by omega) hla
      simp only [step, hla] at hne ⊢
      exact tiled_alloc_step hE inv ht ⟨hp, hge, hle, Nat.dvd_mul_right_of_dvd hd n, hlay⟩
        (allocMaybe_spec f s hE inv.wf hp hlay) hne (fun _ _ => rfl) rfl rfl
  | tfill esz eal n errat =>
    obtain ⟨rfl, hp, hge, hle, hd⟩ := hu
    cases hla : arrayLayout esz eal n with
    | none => simp only [step, sliceTryFill, hla]; exact ht
    | some total =>
      obtain ⟨rfl, hlay⟩ := arrayLayout_some (by omega) hla
      simp only [step] at hne ⊢
      have hreq : UniformReq s.a.M eal (esz * n) := ⟨hp, hge, hle, Nat.dvd_mul_right_of_dvd hd n, hlay⟩
      have sp := allocLayout_spec (sz := esz * n) (al := eal) s hE inv.wf hp hlay
      by_cases herr : ∃ i p, errat = some i ∧ i < n ∧ (allocLayout E (esz * n) eal s).2 = .ok p
      · obtain ⟨i, p, rfl, hi, hok⟩ := herr
        rw [sliceTryFill_of_err s hla hi hok (alloc_dealloc_live hE inv hp sp hok).1]
        rw [hok] at sp
        exact tiled_alloc_dealloc inv ht hreq sp
      · rw [sliceTryFill_eq_alloc errat s hla fun i p h1 h2 h3 => herr ⟨i, p, h1, h2, h3⟩] at hne ⊢
        exact tiled_alloc_step hE inv ht hreq sp hne (fun _ _ => rfl) rfl rfl
  | atw sz al ok inner f =>
    obtain ⟨rfl, hreq, rfl⟩ := hu
    have sp := allocMaybe_spec f s hE inv.wf hreq.pow hreq.lay
    simp only [step] at hne ⊢
    by_cases hres : ∃ slot, (allocMaybe E f sz al s).2 = .ok slot
    · obtain ⟨slot, hs⟩ := hres
      cases ok with
      | true =>
        rw [atw_of_ok [] f s hs rfl]
        show Tiled al _ (live ++ [⟨slot, sz⟩] ++ [])
        rw [List.append_nil]
        rw [hs] at sp
        exact tiled_alloc hE inv ht hreq sp
      | false =>
        -- nothing was allocated by the initialiser: the arena is as on entry, or has one more, empty, chunk
        obtain ⟨r1, r2, _, _, r5, _⟩ := atw_err_no_residue f s hE inv.wf hreq.pow hreq.lay slot hs
        rw [r1]
        show Tiled al _ (live ++ [])
        rw [List.append_nil]
        rcases r5 with ha | ⟨C, hpf, ha⟩
        · rw [ha]; exact ht
        · have hd := r2.disj
          have hwC := r2.chunks C (by rw [ha]; exact List.mem_cons_self)
          rw [ha] at hd ⊢
          exact tiled_push_empty inv hwC ht hpf (List.pairwise_cons.mp hd).1 hreq.pow hreq.le
    · rw [atw_of_not_ok ok [] f s fun p hp => hres ⟨p, hp⟩] at hne ⊢
      exact tiled_alloc_step hE inv ht hreq sp hne (fun p hp => absurd ⟨p, hp⟩ hres) rfl rfl
  | reset =>
    simp only [step, (reset_spec s inv.wf).1, Res.ofOutcome]
    exact tiled_reset s inv.wf hA hA16
  | limit v => exact ht
  | _ => exact hu.elim

theorem uniformOp_valid {M A : Nat} (y : Sys) (op : Op) (h : UniformOp M A op) : OpValidFull y op := by
  cases op with
  | alloc sz al f => obtain ⟨rfl, hr⟩ := h; exact ⟨hr.pow, hr.lay⟩
  | array esz eal n f => obtain ⟨rfl, hp, _, hle, _⟩ := h; exact ⟨hp, by omega⟩
  | atw sz al ok inner f =>
    obtain ⟨rfl, hr, rfl⟩ := h
    exact ⟨hr.pow, hr.lay, by intro i hi; cases hi⟩
  | tfill esz eal n errat => obtain ⟨rfl, hp, _, hle, _⟩ := h; exact ⟨hp, by omega⟩
  | reset => trivial
  | limit v => trivial
  | _ => exact h.elim

def UniformRun (E A : Nat) : List Op → Sys → Prop
  | [], _ => True
  | op :: ops, y => UniformOp y.st.a.M A op ∧ (sysStep E op y).2 ≠ .envBad ∧ UniformRun E A ops (sysStep E op y).1

theorem tiled_history {E A} (hE : EnvOK E) (hA : IsPow2 A) (hA16 : A ≤ 16) : ∀ (ops : List Op) (y : Sys),
    LiveInv E y → Tiled A y.st.a.chunks y.live → UniformRun E A ops y →
    LiveInv E (sysRun E ops y).1 ∧ Tiled A (sysRun E ops y).1.st.a.chunks (sysRun E ops y).1.live := by
  intro ops
  induction ops with
  | nil => intro y inv ht _; exact ⟨inv, ht⟩
  | cons op ops ih =>
    intro y inv ht ⟨hu, hne, hrest⟩
    exact ih _ ((sysStep_live_full hE y op inv (uniformOp_valid y op hu)).2 hne)
      (tiled_step hE hA hA16 y op inv ht hu hne) hrest

end Bump
