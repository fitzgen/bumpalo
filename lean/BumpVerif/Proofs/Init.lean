import BumpVerif.Proofs.Realloc
/-! Fallible initialisers (`alloc_try_with` / `try_alloc_try_with`): the rewind after an initialiser that failed
without allocating. -/
namespace Bump
open Gen

/-- the rewind after a failed initialiser that allocated nothing, same-chunk case -/
theorem rewind_restore {E a p a'} (s1 : St) (hs : setCurPtr E a p = some a') (h1 : s1.a = a') :
    rewind E (footerId a) (a.cur E).ptr p s1 = ({ s1 with a := a }, .ok ()) := by
  obtain ⟨c1, c2, _, _⟩ := setCurPtr_cur hs
  subst h1
  rw [rewind, isLast, c1, beq_self_eq_true, if_pos rfl, c2, beq_self_eq_true, if_pos rfl, storePtr, setCurPtr_undo hs]

theorem footerId_fresh_ne {E a a' C} (hwf' : ArenaWF E a') (hch : a'.chunks = C :: a.chunks) :
    (some C.footer == footerId a) = false := by
  rw [footerId]
  cases hac : a.chunks with
  | nil => rfl
  | cons h hs =>
    have hd := hwf'.disj; rw [hch, hac] at hd
    exact beq_eq_false_iff_ne.mpr fun e => footer_ne_of_disj (hwf'.head hch)
      (hwf'.chunks h (by rw [hch, hac]; exact List.mem_cons_of_mem _ List.mem_cons_self))
      ((List.pairwise_cons.mp hd).1 h List.mem_cons_self) (Option.some.inj e)

/-- the fresh-chunk case -/
theorem rewind_restore_fresh {E a a' c p} (rp : Nat) (s1 : St) (hwf' : ArenaWF E a') (hpf : c.ptr = c.footer)
    (hch : a'.chunks = { c with ptr := p } :: a.chunks) (h1 : s1.a = a') :
    rewind E (footerId a) rp p s1 = ({ s1 with a := { a' with chunks := c :: a.chunks } }, .ok ()) := by
  subst h1
  have hcur : s1.a.cur E = { c with ptr := p } := Arena.cur_cons E hch
  have hfid : footerId s1.a = some c.footer := by rw [footerId, hch]; rfl
  have hne : (footerId s1.a == footerId a) = false := by
    rw [hfid]; exact footerId_fresh_ne (C := { c with ptr := p }) hwf' hch
  rw [rewind, isLast, hcur, show (({ c with ptr := p } : Chunk).ptr == p) = true from beq_self_eq_true p, if_pos rfl, hne,
    if_neg Bool.false_ne_true, storePtr_cons _ _ hch,
    show ({ c with ptr := p } : Chunk).footer = c.footer from rfl, Chunk.ptr_restore p hpf]

/-- **No residue** (C11): a failed `alloc_try_with`/`try_alloc_try_with` whose initialiser
allocated nothing hands back `Err`, leaves a well-formed arena that is either exactly the arena
on entry or the arena on entry plus the (empty) chunk acquired for the value, produces no
allocator traffic beyond the reservation itself, and a request of the same layout made next is
served by the fast path — at the very same address — without obtaining memory. -/
theorem atw_err_no_residue {E sz al} (f : Bool) (s : St) (hE : EnvOK E) (h : ArenaWF E s.a) (hA : IsPow2 al)
    (hlay : sz + al ≤ 2 ^ 63) (slot : Nat) (hok : (allocMaybe E f sz al s).2 = .ok slot) :
    let r := allocTryWith E sz al false [] f s
    r.2 = .ierr [] ∧ ArenaWF E r.1.a ∧ r.1.evs = (allocMaybe E f sz al s).1.evs ∧ r.1.mem = s.mem ∧
    (r.1.a = s.a ∨ ∃ c, c.ptr = c.footer ∧ r.1.a = { s.a with chunks := c :: s.a.chunks }) ∧
    tryFast E r.1.a sz al = .ok (some ((allocMaybe E f sz al s).1.a, slot)) := by
  intro r
  have sp := allocMaybe_spec f s hE h hA hlay
  obtain ⟨hwf', -⟩ := sp.ok slot hok
  have hvia := sp.via slot hok
  have hmem := sp.mem_eq; have hmq := sp.m_eq; have hlq := sp.lim_eq
  have hr : r = allocTryWith E sz al false [] f s := rfl
  unfold allocTryWith at hr
  generalize allocMaybe E f sz al s = m at hok hvia hwf' hmem hmq hlq hr ⊢
  obtain ⟨s1, o1⟩ := m
  cases hok
  simp only [bindO, runInner, Bool.false_eq_true, ↓reduceIte] at hr
  rcases hvia with htf | ⟨c, _, hpf, hch, htf⟩
  · rw [rewind_restore s1 (tryFast_some htf).2 rfl] at hr
    rw [hr]
    exact ⟨rfl, h, rfl, hmem, Or.inl rfl, htf⟩
  · rw [rewind_restore_fresh (a := s.a) (s.a.cur E).ptr s1 hwf' hpf hch rfl] at hr
    have heq : ({ s1.a with chunks := c :: s.a.chunks } : Arena) = { s.a with chunks := c :: s.a.chunks } :=
      Arena.eq_of hmq rfl hlq
    rw [hr, heq]
    refine ⟨rfl, ?_, rfl, hmem, Or.inr ⟨c, hpf, rfl⟩, htf⟩
    -- the chunk list of `s1.a` with the head's finger back at its footer
    have hw := hwf'.head hch
    have := setPtr_wf hwf' hch (p := c.footer) (Nat.le_trans hw.ptr_ge hw.ptr_le) (Nat.le_refl _)
      (Nat.dvd_trans hwf'.m_dvd16 (footer_al (c := { c with ptr := slot }) hw))
    rwa [Chunk.ptr_restore slot hpf, heq] at this

end Bump
