import BumpVerif.Proofs.VecExtend
import BumpVerif.Proofs.VecDrain
/-!
# `splice` (vec.rs:2207, 2586-2693): `Drain` + `Splice::drop` (`fill`, `move_tail`, the collected
remainder) + `Drain::drop`

`Gap c v d P gap T R`: the state of the vector while a `Splice` is being dropped — the buffer is
`P ++ gap ++ T ++ R` where `P` (`len = |P|`) is what the vector owns at the moment, `gap` are the
slots left by the drained range (stale bit copies or uninitialised), `T` is the tail that
`Drain::drop` will move back (`tail_start = |P| + |gap|`, `tail_len = |T|`).
-/
namespace Bump.V
open Bump

structure Gap (c : Cfg) (v : VS) (d : Drain) (P : List Elem) (gap : List (Option Elem)) (T : List Elem)
    (R : List (Option Elem)) : Prop where
  slots : v.slots = P.map some ++ (gap ++ (T.map some ++ R))
  len : v.len = P.length
  tailStart : d.tailStart = P.length + gap.length
  tailLen : d.tailLen = T.length
  bufOK : BufOK c v
  zst : c.esz = 0 → P.length + gap.length + T.length ≤ USIZE_MAX

theorem Gap.total {c v d P gap T R} (h : Gap c v d P gap T R) :
    v.slots.length = P.length + gap.length + T.length + R.length := by
  rw [h.slots]; simp only [List.length_append, List.length_map]; omega

theorem Gap.used_le {c v d P gap T R} (h : Gap c v d P gap T R) : P.length + gap.length + T.length ≤ capOf c v := by
  by_cases he : c.esz = 0
  · simp only [capOf, he, ↓reduceIte]; exact h.zst he
  · have := h.bufOK.buf he
    have := h.total
    simp only [capOf, he, ↓reduceIte]; omega

theorem Gap.fillCount {c v d P gap T R} (h : Gap c v d P gap T R) : d.tailStart - v.len = gap.length := by
  rw [h.tailStart, h.len]; omega

theorem Gap.rep_of_nil {c v d P gap R} (h : Gap c v d P gap [] R) : RepB c v P :=
  ⟨⟨⟨_, h.slots⟩, h.len, h.bufOK.buf, by have := h.used_le; rw [h.len]; omega⟩, h.bufOK.capLt, h.bufOK.capHalf⟩

/-- the state `drain` leaves when the range held `D` -/
theorem Gap.of_rep {c : Cfg} {A D T : List Elem} {rest : List (Option Elem)} {l cp : Nat}
    (h : RepB c ⟨(A ++ (D ++ T)).map some ++ rest, l, cp⟩ (A ++ (D ++ T))) (lo hi : Nat) :
    Gap c ⟨(A ++ (D ++ T)).map some ++ rest, A.length, cp⟩ ⟨A.length + D.length, l - (A.length + D.length), lo, hi⟩ A (D.map some) T rest := by
  have hl : l = A.length + (D.length + T.length) := by simpa using h.len
  refine ⟨by simp only [List.map_append, List.append_assoc], rfl, by rw [List.length_map],
    show l - (A.length + D.length) = T.length by rw [hl]; omega,
    ⟨h.buf, h.capLt, h.capHalf⟩, fun he => ?_⟩
  have := h.lenCap
  simp only [capOf, he, ↓reduceIte] at this
  rw [List.length_map]; omega

/-- `Drain::drop` after its range is exhausted -/
theorem Gap.moveBack {c v d P gap T R} (h : Gap c v d P gap T R) (w : W) :
    ∃ v', d.moveBack c v w = (v', w) ∧ RepB c v' (P ++ T) := by
  obtain ⟨J, hJ, hmb⟩ := moveBack_run c v (P.map some) gap (T.map some) R d w h.slots (by rw [h.len, List.length_map])
    (by rw [h.tailStart, List.length_map]) (by rw [h.tailLen, List.length_map])
  refine ⟨_, hmb, ?_⟩
  have := RepB.of_nf (c := c) (ys := P ++ T) (rest := J ++ R) (cap := v.cap)
    (fun he => by
      have := h.bufOK.buf he
      have := h.total
      simp only [List.length_append, List.length_map]; omega)
    h.bufOK.capLt h.bufOK.capHalf (fun he => by have := h.zst he; rw [List.length_append]; omega)
  simpa using this

/-- `Drain::move_tail(extra)`: reserve, move the tail up; `none` = the reservation panicked -/
theorem Gap.moveTail {c v d P T R} (hc : CfgOK c) (h : Gap c v d P [] T R) (hT : T ≠ []) (extra : Nat) (w : W) :
    (Drain.moveTail c v d extra w = none ∧ ∀ N, GrowOK c N → ¬ P.length + T.length + extra ≤ N) ∨
    ∃ v' gap' R', Drain.moveTail c v d extra w = some (v', { d with tailStart := d.tailStart + extra }, w) ∧
      Gap c v' { d with tailStart := d.tailStart + extra } P gap' T R' ∧ gap'.length = extra := by
  have hts := h.tailStart
  have htl := h.tailLen
  simp only [List.length_nil, Nat.add_zero] at hts
  have hu : P.length + T.length ≤ capOf c v := by have := h.used_le; simpa using this
  unfold Drain.moveTail
  rw [hts, htl]
  cases hres : rawReserve c v (P.length + T.length) extra with
  | none => left; exact ⟨rfl, fun N hg hN => rawReserve_grow hc hg h.bufOK hu hN hres⟩
  | some v1 =>
    right
    obtain ⟨hb1, hl1, hge, R0, hs0⟩ := rawReserve_buf hc h.bufOK hu hres
    have hs1 : v1.slots = P.map some ++ (T.map some ++ (R ++ R0)) := by
      rw [hs0, h.slots]; simp only [List.nil_append, List.append_assoc]
    have hroom : c.esz ≠ 0 → extra ≤ (R ++ R0).length := fun he => by
      have := hb1.buf he
      rw [hs1] at this
      simp only [capOf, he, ↓reduceIte] at hge
      simp only [List.length_append, List.length_map] at this ⊢; omega
    rcases v1 with ⟨sl1, l1, cp1⟩
    simp only at hs1 hl1
    subst hs1
    obtain ⟨G, R', hcopy, hG, hR'⟩ := copy_up c (P.map some) (T.map some) (R ++ R0) l1 cp1 extra w (by simpa using hT) hroom
    simp only [List.length_map] at hcopy
    refine ⟨⟨P.map some ++ (G ++ (T.map some ++ R')), l1, cp1⟩, G, R', ?_, ?_, hG⟩
    · simp only [hcopy]
    · refine ⟨rfl, by rw [hl1]; exact h.len, by simp [hG], rfl, ⟨?_, hb1.capLt, hb1.capHalf⟩, ?_⟩
      · intro he
        have := hb1.buf he
        have := hR' (hroom he)
        simp only [ne_eq, List.length_append, List.length_map] at *; omega
      · intro he
        simp only [capOf, he, ↓reduceIte] at hge
        omega

theorem Gap.write {c v d P g gap T R} (h : Gap c v d P (g :: gap) T R) (e : Elem) (w : W) :
    ∃ v1, v.write c v.len e w = (v1, w) ∧ Gap c { v1 with len := v1.len + 1 } d (P ++ [e]) gap T R := by
  rcases v with ⟨sl, l, cp⟩
  have hs := h.slots
  have hl := h.len
  have hb := h.bufOK
  simp only at hs hl
  subst hs; subst hl
  have hw := write_at c (P.map some) (gap ++ (T.map some ++ R)) g P.length cp e w
  simp only [List.length_map, List.cons_append] at hw ⊢
  refine ⟨_, hw, ⟨by simp, by simp, ?_, h.tailLen, ⟨?_, hb.capLt, hb.capHalf⟩, ?_⟩⟩
  · have := h.tailStart; simp only [List.length_cons, List.length_append, List.length_nil, Nat.zero_add] at this ⊢; omega
  · intro he; have := hb.buf he; simpa using this
  · intro he; have := h.zst he; simp only [List.length_cons, List.length_append, List.length_nil, Nat.zero_add, ge_iff_le] at this ⊢; omega

/-- `fill` from the caller's iterator -/
theorem fill_src {c : Cfg} {d : Drain} {T : List Elem} {R : List (Option Elem)} (w : W) :
    ∀ (k : Nat) (v : VS) (s : Src) (P : List Elem) (gap : List (Option Elem)), Gap c v d P gap T R → k ≤ gap.length →
      ∃ (j : Nat) (v' : VS) (s' : Src) (flag : Option Bool),
        Drain.fill c d k v (.src s) w = (v', .src s', w, flag) ∧ j ≤ k ∧ j ≤ s.items.length ∧
        Gap c v' d (P ++ s.items.take j) (gap.drop j) T R ∧ s'.items = s.items.drop j ∧ s'.hint = s.hint ∧
        s.consumed ≤ s'.consumed ∧ (flag = some true → j = k) ∧ (flag = some false → j = s.items.length) ∧
        (s.panicAt = none → flag ≠ none ∧ s'.panicAt = none) := by
  intro k
  induction k with
  | zero =>
    intro v s P gap h _
    exact ⟨0, v, s, some true, rfl, Nat.le_refl _, Nat.zero_le _, by simpa using h, by simp, rfl, Nat.le_refl _, fun _ => rfl,
      by simp, fun hn => ⟨by simp, hn⟩⟩
  | succ k ih =>
    intro v s P gap h hk
    by_cases hp : s.panicAt = some s.calls
    · exact ⟨0, v, { s with calls := s.calls + 1, panicAt := none }, none, by simp [Drain.fill, src_next_panic c w s hp], Nat.zero_le _,
        Nat.zero_le _, by simpa using h, by simp, rfl, Nat.le_refl _, by simp, by simp, fun hn => by rw [hn] at hp; cases hp⟩
    · cases hit : s.items with
      | nil =>
        exact ⟨0, v, { s with calls := s.calls + 1 }, some false, by simp [Drain.fill, src_next_nil c w s hp hit], Nat.zero_le _,
          Nat.zero_le _, by simpa using h, by simp [hit], rfl, Nat.le_refl _, by simp, by simp, fun hn => ⟨by simp, hn⟩⟩
      | cons e r =>
        have hnext := src_next_cons c w s e r hp hit
        cases gap with
        | nil => simp at hk
        | cons g gap' =>
          obtain ⟨v1, hw, hg1⟩ := h.write e w
          let s1 : Src := { s with items := r, consumed := s.consumed + 1, calls := s.calls + 1 }
          obtain ⟨j, v', s', flag, hrun, hjk, hjl, hgap, hs', hh, hcons, hf1, hf2, hnp⟩ :=
            ih _ s1 (P ++ [e]) gap' hg1 (by simp at hk; omega)
          refine ⟨j + 1, v', s', flag, ?_, by omega, by simp [s1] at hjl; simp; omega, ?_, by rw [hs']; simp [s1], hh,
            by simp [s1] at hcons; omega, fun hf => by rw [hf1 hf], fun hf => by have := hf2 hf; simp [s1] at this; simp [this],
            fun hn => hnp (by simpa [s1] using hn)⟩
          · simp only [Drain.fill, hnext, hw]; exact hrun
          · simpa [s1, List.append_assoc] using hgap

theorem owned_next_cons (c : Cfg) (w : W) (e : Elem) (r : List Elem) :
    It.next c w (.owned (e :: r)) = (w, .owned r, some (some e)) := rfl

/-- `fill` from the collected remainder, which has exactly the size of the gap -/
theorem fill_owned {c : Cfg} {d : Drain} {T : List Elem} {R : List (Option Elem)} (w : W) :
    ∀ (acc : List Elem) (v : VS) (P : List Elem) (gap : List (Option Elem)), Gap c v d P gap T R → gap.length = acc.length →
      ∃ v', Drain.fill c d acc.length v (.owned acc) w = (v', .owned [], w, some true) ∧ Gap c v' d (P ++ acc) [] T R := by
  intro acc
  induction acc with
  | nil =>
    intro v P gap h hg
    have : gap = [] := List.eq_nil_of_length_eq_zero hg
    subst this
    exact ⟨v, rfl, by simpa using h⟩
  | cons e r ih =>
    intro v P gap h hg
    cases gap with
    | nil => simp at hg
    | cons g gap' =>
      obtain ⟨v1, hw, hg1⟩ := h.write e w
      obtain ⟨v', hrun, hgap⟩ := ih _ (P ++ [e]) gap' hg1 (by simpa using hg)
      refine ⟨v', ?_, by simpa [List.append_assoc] using hgap⟩
      simp only [List.length_cons, Drain.fill, owned_next_cons, hw]; exact hrun

/-- `collected.extend(replace_with.by_ref())` -/
theorem collectRest_src (c : Cfg) (w : W) :
    ∀ (f : Nat) (s : Src) (acc : List Elem), s.items.length < f →
      ∃ (j : Nat) (s' : Src) (ok : Bool), collectRest c f (.src s) w acc = (.src s', w, acc ++ s.items.take j, ok) ∧
        j ≤ s.items.length ∧ s'.items = s.items.drop j ∧ (ok = true → j = s.items.length) ∧ (s.panicAt = none → ok = true) := by
  intro f
  induction f with
  | zero => intro s acc hf; omega
  | succ f ih =>
    intro s acc hf
    by_cases hp : s.panicAt = some s.calls
    · exact ⟨0, { s with calls := s.calls + 1, panicAt := none }, false, by simp [collectRest, src_next_panic c w s hp], Nat.zero_le _, by simp,
        by simp, fun hn => by rw [hn] at hp; cases hp⟩
    · cases hit : s.items with
      | nil =>
        exact ⟨0, { s with calls := s.calls + 1 }, true, by simp [collectRest, src_next_nil c w s hp hit], Nat.zero_le _, by simp [hit],
          by simp, fun _ => rfl⟩
      | cons e r =>
        have hnext := src_next_cons c w s e r hp hit
        let s1 : Src := { s with items := r, consumed := s.consumed + 1, calls := s.calls + 1 }
        obtain ⟨j, s', ok, hrun, hj, hs', hok, hnp⟩ := ih s1 (acc ++ [e]) (by rw [hit] at hf; simp [s1] at hf ⊢; omega)
        refine ⟨j + 1, s', ok, ?_, by simp [s1] at hj; simp; omega, by rw [hs']; simp [s1], fun h => by have := hok h; simp [s1] at this; simp [this],
          fun hn => hnp (by simpa [s1] using hn)⟩
        simp only [collectRest, hnext]
        rw [hrun]; simp [s1]

/-- the last part of `Splice::drop`: collect what is left, make room, fill -/
def spliceTail (c : Cfg) (v : VS) (d : Drain) (it : It) (w : W) : VS × Drain × It × W × Bool :=
  match collectRest c (it.remaining + 1) it w [] with
  | (it, w, acc, false) => (v, d, it, (dropAll c acc w).1, false)
  | (it, w, acc, true) =>
    if acc.length > 0 then
      match Drain.moveTail c v d acc.length w with
      | none => (v, d, it, (dropAll c acc w).1, false)
      | some (v, d, w) =>
        match Drain.fill c d (d.tailStart - v.len) v (.owned acc) w with
        | (v, .owned [], w, some true) => (v, d, it, w, true)
        | (v, left, w, _) => (v, d, it, (left.dropRest c w).flag "splice: collected items did not fit", !c.dbg)
    else (v, d, it, w, true)

/-- the part after `if lower_bound > 0 { move_tail; fill }` -/
def spliceAfter (c : Cfg) (r : Option (VS × Drain × It × W × Option Bool)) (v : VS) (d : Drain) (it : It) (w : W) :
    VS × Drain × It × W × Bool :=
  match r with
  | none => (v, d, it, w, false)
  | some (v, d, it, w, none) => (v, d, it, w, false)
  | some (v, d, it, w, some false) => (v, d, it, w, true)
  | some (v, d, it, w, some true) => spliceTail c v d it w

theorem spliceBody_eq (c : Cfg) (v : VS) (d : Drain) (it : It) (w : W) :
    spliceBody c v d it w =
      if d.tailLen = 0 then
        ((extendRef c v it w).1, d, (extendRef c v it w).2.1, (extendRef c v it w).2.2.1, (extendRef c v it w).2.2.2)
      else
        match Drain.fill c d (d.tailStart - v.len) v it w with
        | (v, it, w, none) => (v, d, it, w, false)
        | (v, it, w, some false) => (v, d, it, w, true)
        | (v, it, w, some true) =>
          spliceAfter c
            (if it.hintLo > 0 then
              match Drain.moveTail c v d it.hintLo w with
              | none => none
              | some (v, d, w) =>
                some ((Drain.fill c d (d.tailStart - v.len) v it w).1, d, (Drain.fill c d (d.tailStart - v.len) v it w).2.1,
                  (Drain.fill c d (d.tailStart - v.len) v it w).2.2.1, (Drain.fill c d (d.tailStart - v.len) v it w).2.2.2)
            else some (v, d, it, w, some true)) v d it w := by
  rfl

/-- what the body of `Splice::drop` leaves behind, in terms of the items the iterator held when it
started: `j` of them are in the vector (after the prefix `P`, before the tail `T`, once
`Drain::drop` has moved the tail back), `m` were dropped on the spot (a refused `push`, or the
collected remainder when the unwinding destroyed it), the others are still in the iterator -/
def SpPost (c : Cfg) (good : Prop) (w : W) (items P T : List Elem) (res : VS × Drain × It × W × Bool) : Prop :=
  ∃ (j m : Nat) (s2 : Src), res.2.2.1 = .src s2 ∧ j + m ≤ items.length ∧ s2.items = items.drop (j + m) ∧
    (∃ v3, res.2.1.moveBack c res.1 res.2.2.2.1 = (v3, res.2.2.2.1) ∧ RepB c v3 (P ++ items.take j ++ T)) ∧
    res.2.2.2.1.evs = w.evs ++ dropEvs c ((items.drop j).take m) ∧ res.2.2.2.1.bad = w.bad ∧
    res.2.2.2.1.nextId = w.nextId ∧ (res.2.2.2.2 = true → j = items.length) ∧ (good → res.2.2.2.2 = true)

theorem SpPost.of_gap {c : Cfg} {good : Prop} {w : W} {items P T : List Elem} {v : VS} {d : Drain} {gap R : List (Option Elem)}
    {s2 : Src} {w2 : W} {ok : Bool} (j m : Nat) (hg : Gap c v d (P ++ items.take j) gap T R) (hjm : j + m ≤ items.length)
    (hs2 : s2.items = items.drop (j + m)) (hev : w2.evs = w.evs ++ dropEvs c ((items.drop j).take m)) (hb : w2.bad = w.bad)
    (hn : w2.nextId = w.nextId) (hok : ok = true → j = items.length) (hgood : good → ok = true) :
    SpPost c good w items P T (v, d, .src s2, w2, ok) := by
  obtain ⟨v3, h1, h2⟩ := hg.moveBack w2
  exact ⟨j, m, s2, rfl, hjm, hs2, ⟨v3, h1, h2⟩, hev, hb, hn, hok, hgood⟩

theorem SpPost.of_gap0 {c : Cfg} {good : Prop} {w : W} {items P T : List Elem} {v : VS} {d : Drain} {gap R : List (Option Elem)}
    {s2 : Src} {ok : Bool} {j : Nat} (hg : Gap c v d (P ++ items.take j) gap T R) (hj : j ≤ items.length)
    (hs2 : s2.items = items.drop j) (hok : ok = true → j = items.length) (hgood : good → ok = true) :
    SpPost c good w items P T (v, d, .src s2, w, ok) :=
  SpPost.of_gap j 0 hg hj hs2 (by rw [List.take_zero, dropEvs_nil, List.append_nil]) rfl rfl hok hgood

theorem SpPost.shift {c : Cfg} {good good' : Prop} {w : W} {items P T : List Elem} {res : VS × Drain × It × W × Bool}
    (j1 : Nat) (hj1 : j1 ≤ items.length) (h : SpPost c good' w (items.drop j1) (P ++ items.take j1) T res) (hg : good → good') :
    SpPost c good w items P T res := by
  obtain ⟨j, m, s2, h1, hjm, hs2, ⟨v3, hm, hr⟩, hev, hb, hn, hok, hgd⟩ := h
  refine ⟨j1 + j, m, s2, h1, by simp at hjm; omega, ?_, ⟨v3, hm, ?_⟩, ?_, hb, hn, ?_, fun g => hgd (hg g)⟩
  · rw [hs2, List.drop_drop]; congr 1; omega
  · rw [List.take_add]; simpa [List.append_assoc] using hr
  · rw [hev, List.drop_drop]
  · intro h; have := hok h; simp only [List.length_drop] at this; omega

theorem SpPost.mono {c : Cfg} {good good' : Prop} {w : W} {items P T : List Elem} {res : VS × Drain × It × W × Bool}
    (h : SpPost c good' w items P T res) (hg : good → good') : SpPost c good w items P T res := by
  obtain ⟨j, m, s2, h1, hjm, hs2, hv, hev, hb, hn, hok, hgd⟩ := h
  exact ⟨j, m, s2, h1, hjm, hs2, hv, hev, hb, hn, hok, fun g => hgd (hg g)⟩

theorem spliceTail_spec {c : Cfg} (hc : CfgOK c) (N : Nat) {v : VS} {d : Drain} {P T : List Elem} {R : List (Option Elem)}
    (h : Gap c v d P [] T R) (hT : T ≠ []) (s : Src) (w : W) :
    SpPost c (s.panicAt = none ∧ GrowOK c N ∧ P.length + T.length + s.items.length ≤ N) w s.items P T
      (spliceTail c v d (.src s) w) := by
  obtain ⟨j, s', ok, hcr, hj, hs', hok, hnp⟩ := collectRest_src c w ((It.src s).remaining + 1) s [] (by simp [It.remaining])
  simp only [List.nil_append] at hcr
  have hfail : ∀ (good : Prop), (good → False) →
      SpPost c good w s.items P T (v, d, .src s', (dropAll c (s.items.take j) w).1, false) := by
    intro good hgd
    exact SpPost.of_gap 0 j (by simpa using h) (by omega) (by simpa using hs') (by rw [dropAll_evs]; simp) (dropAll_bad _ _ _)
      (dropAll_nextId _ _ _) (by simp) (fun g => (hgd g).elim)
  unfold spliceTail
  rw [hcr]
  cases ok with
  | false => exact hfail _ (fun g => by have := hnp g.1; cases this)
  | true =>
    have hjl := hok rfl
    by_cases hpos : (s.items.take j).length > 0
    · simp only [hpos, ↓reduceIte]
      rcases h.moveTail hc hT (s.items.take j).length w with ⟨hmt, hres⟩ | ⟨v', gap', R', hmt, hg', hgl⟩
      · rw [hmt]
        apply hfail
        rintro ⟨_, hg, hN⟩
        exact hres N hg (by rw [List.length_take]; omega)
      · obtain ⟨v'', hrun, hgap⟩ := fill_owned w (s.items.take j) v' P gap' hg' hgl
        have hk := hg'.fillCount
        rw [hgl] at hk
        simp only [hmt, hk, hrun]
        exact SpPost.of_gap0 hgap hj hs' (fun _ => hjl) (fun _ => rfl)
    · simp only [hpos, ↓reduceIte]
      have hz : s.items.length = 0 := by rw [List.length_take] at hpos; omega
      exact SpPost.of_gap0 (j := 0) (by simpa using h) (Nat.zero_le _) (by rw [hs']; simp [hjl, hz])
        (fun _ => hz.symm) (fun _ => rfl)

theorem spliceAfter_spec {c : Cfg} (hc : CfgOK c) (N : Nat) {v : VS} {d : Drain} {P T : List Elem} {R : List (Option Elem)}
    (h : Gap c v d P [] T R) (hT : T ≠ []) (s : Src) (w : W) :
    SpPost c (s.panicAt = none ∧ GrowOK c N ∧ P.length + T.length + s.items.length + (s.hint - s.consumed) ≤ N) w s.items P T
      (spliceAfter c
        (if (It.src s).hintLo > 0 then
          match Drain.moveTail c v d (It.src s).hintLo w with
          | none => none
          | some (v, d, w) =>
            some ((Drain.fill c d (d.tailStart - v.len) v (.src s) w).1, d, (Drain.fill c d (d.tailStart - v.len) v (.src s) w).2.1,
              (Drain.fill c d (d.tailStart - v.len) v (.src s) w).2.2.1, (Drain.fill c d (d.tailStart - v.len) v (.src s) w).2.2.2)
        else some (v, d, .src s, w, some true)) v d (.src s) w) := by
  by_cases hlb : (It.src s).hintLo > 0
  · simp only [hlb, ↓reduceIte]
    rcases h.moveTail hc hT (It.src s).hintLo w with ⟨hmt, hres⟩ | ⟨v', gap', R', hmt, hg', hgl⟩
    · rw [hmt]
      simp only [spliceAfter]
      refine SpPost.of_gap0 (j := 0) (by simpa using h) (Nat.zero_le _) rfl (by simp) ?_
      rintro ⟨_, hg, hN⟩
      exact (hres N hg (by simp only [It.hintLo]; omega)).elim
    · have hk := hg'.fillCount
      obtain ⟨j, v'', s', flag, hrun, hjk, hjl, hgap, hs', hh, hcons, hf1, hf2, hnp⟩ :=
        fill_src w gap'.length v' s P gap' hg' (Nat.le_refl _)
      simp only [hmt, hk, hrun]
      cases flag with
      | none =>
        exact SpPost.of_gap0 hgap hjl hs' (by simp)
          (fun g => by have := (hnp g.1).1; simp at this)
      | some b =>
        cases b with
        | false =>
          exact SpPost.of_gap0 hgap hjl hs' (fun _ => hf2 rfl) (fun _ => rfl)
        | true =>
          have hjg := hf1 rfl
          rw [List.drop_eq_nil_of_le (Nat.le_of_eq hjg.symm)] at hgap
          have := spliceTail_spec hc N hgap hT s' w
          rw [hs'] at this
          apply SpPost.shift j hjl this
          rintro ⟨hn, hg, hN⟩
          refine ⟨(hnp hn).2, hg, ?_⟩
          rw [List.length_append, List.length_take_of_le hjl, List.length_drop]; omega
  · simp only [hlb, ↓reduceIte, spliceAfter]
    exact (spliceTail_spec hc N h hT s w).mono (fun g => ⟨g.1, g.2.1, by have := g.2.2; omega⟩)

/-- the body of `Splice::drop` after the drained range has been exhausted -/
theorem spliceBody_spec {c : Cfg} (hc : CfgOK c) (N : Nat) {v : VS} {d : Drain} {P T : List Elem} {gap R : List (Option Elem)}
    (h : Gap c v d P gap T R) (s : Src) (w : W) :
    SpPost c (s.panicAt = none ∧ GrowOK c N ∧ P.length + gap.length + T.length + s.items.length + s.hint ≤ N) w s.items P T
      (spliceBody c v d (.src s) w) := by
  rw [spliceBody_eq]
  by_cases hT : T = []
  · subst hT
    have htl : d.tailLen = 0 := by rw [h.tailLen]; rfl
    rw [if_pos htl]
    obtain ⟨j, m, v', s', w', ok, hrun, hrep, hjm, hs', hev, hb, hn, hok, hgood⟩ := extendRef_src_spec hc N h.rep_of_nil s w
    rw [hrun]
    refine ⟨j, m, s', rfl, hjm, hs', ⟨v', by simp [Drain.moveBack, htl], by simpa using hrep⟩, hev, hb, hn, fun hh => (hok hh).1, ?_⟩
    rintro ⟨hn', hg, hN⟩
    exact hgood hn' hg (by omega) (by omega)
  · have htl : ¬ d.tailLen = 0 := by
      rw [h.tailLen]; have := List.length_pos_iff.mpr hT; omega
    rw [if_neg htl]
    obtain ⟨j, v', s', flag, hrun, hjk, hjl, hgap, hs', hh, hcons, hf1, hf2, hnp⟩ := fill_src w gap.length v s P gap h (Nat.le_refl _)
    rw [h.fillCount, hrun]
    cases flag with
    | none =>
      exact SpPost.of_gap0 hgap hjl hs' (by simp)
        (fun g => by have := (hnp g.1).1; simp at this)
    | some b =>
      cases b with
      | false =>
        exact SpPost.of_gap0 hgap hjl hs' (fun _ => hf2 rfl) (fun _ => rfl)
      | true =>
        have hjg := hf1 rfl
        rw [List.drop_eq_nil_of_le (Nat.le_of_eq hjg.symm)] at hgap
        have := spliceAfter_spec hc N hgap hT s' w
        rw [hs'] at this
        apply SpPost.shift j hjl this
        rintro ⟨hn, hg, hN⟩
        refine ⟨(hnp hn).2, hg, ?_⟩
        rw [List.length_append, List.length_take_of_le hjl, List.length_drop]; omega

/-- `Drain::drop` and the drop of `replace_with` after the body of `Splice::drop` -/
theorem splice_finish {c : Cfg} {good : Prop} {w2 : W} {items P T front : List Elem} (sb : VS × Drain × It × W × Bool)
    (hpost : SpPost c good w2 items P T sb) :
    ∃ (j : Nat) (v' : VS) (w' : W) (r : Option (List Elem)), (sb.2.1.moveBack c sb.1 sb.2.2.2.1).1 = v' ∧
      sb.2.2.1.dropRest c (sb.2.1.moveBack c sb.1 sb.2.2.2.1).2 = w' ∧ (if sb.2.2.2.2 then some front else none) = r ∧
      j ≤ items.length ∧ RepB c v' (P ++ items.take j ++ T) ∧ w'.evs = w2.evs ++ dropEvs c (items.drop j) ∧ w'.bad = w2.bad ∧
      w'.nextId = w2.nextId ∧ (∀ m, r = some m → m = front ∧ j = items.length) ∧ (good → r = some front) := by
  rcases sb with ⟨v2, d2, it2, w2', ok⟩
  obtain ⟨j, m, s2, h1, hjm, hs2, ⟨v3, hm, hrep⟩, hev, hb, hn, hokk, hgd⟩ := hpost
  simp only at h1 hm hev hb hn hokk hgd
  subst h1
  simp only [hm, It.dropRest]
  refine ⟨j, v3, _, _, rfl, rfl, rfl, by omega, hrep, ?_, by rw [dropAll_bad, hb], by rw [dropAll_nextId, hn], ?_, ?_⟩
  · rw [dropAll_evs, hev, hs2, List.append_assoc, ← dropEvs_append, ← List.drop_drop, List.take_append_drop]
  · intro mm hmm
    cases ok with
    | false => simp at hmm
    | true => simp at hmm; exact ⟨hmm.symm, hokk rfl⟩
  · intro g; simp [hgd g]

theorem spliceOp_unfold (c : Cfg) (v : VS) (s e : Bd) (it : It) (take : Nat) (w : W) (v1 : VS) (d : Drain)
    (h : drainNew c v s e = some (v1, d)) :
    spliceOp c v s e it take w =
      let a := d.takeFront v1 take w
      let rr := readRange v1 a.1.lo a.1.hi a.2.1
      match dropEach c rr.1 rr.2 with
      | (w, some left) =>
        let mb := ({ a.1 with lo := a.1.hi } : Drain).moveBack c v1 (dropAll c left w).1
        (mb.1, it.dropRest c mb.2, none)
      | (w, none) =>
        let sb := spliceBody c v1 { a.1 with lo := a.1.hi } it w
        let mb := sb.2.1.moveBack c sb.1 sb.2.2.2.1
        (mb.1, sb.2.2.1.dropRest c mb.2, if sb.2.2.2.2 then some a.2.2 else none) := by
  simp only [spliceOp, h]
  rfl

theorem spliceOp_panics {c : Cfg} {v : VS} {s e : Bd} (h : ¬ ∃ st en, DrainOK c v.len s e st en) (it : It) (take : Nat) (w : W) :
    spliceOp c v s e it take w = (v, it.dropRest c w, none) := by
  simp [spliceOp, drainNew_none h]

/-- `splice` of the range that holds `F ++ M`, with `F` taken by `next()`, then the `Splice` is dropped; `j` of the
iterator's items end up in the vector between `A` and `T`, the others are dropped (in order) by the unwinding -/
theorem spliceOp_run {c : Cfg} (hc : CfgOK c) (N : Nat) {v : VS} {A F M T : List Elem} (h : RepB c v (A ++ (F ++ (M ++ T)))) {s e : Bd}
    (hok : DrainOK c v.len s e A.length (A.length + (F.length + M.length))) (src : Src) (take : Nat) (w : W)
    (hF : F.length = min take (F.length + M.length)) :
    ∃ (j : Nat) (v' : VS) (w' : W) (r : Option (List Elem)), spliceOp c v s e (.src src) take w = (v', w', r) ∧
      j ≤ src.items.length ∧ RepB c v' (A ++ src.items.take j ++ T) ∧
      w'.evs = w.evs ++ movedEvs F ++ dropEvs c M ++ dropEvs c (src.items.drop j) ∧ w'.bad = w.bad ∧ w'.nextId = w.nextId ∧
      (∀ m, r = some m → m = F ∧ j = src.items.length) ∧
      (src.panicAt = none → c.dropPanicAt = none → GrowOK c N → v.len + src.items.length + src.hint ≤ N → r = some F) := by
  rcases v with ⟨sl, l, cp⟩
  obtain ⟨rest, rfl, hl⟩ := h.toRep.nf
  rw [spliceOp_unfold c _ s e _ take w _ _ (drainNew_ok hok)]
  -- the state in which the destructor of the `Splice` / `Drain` finds the vector
  have hG := fun lo hi => Gap.of_rep (D := F ++ M) (by simpa using h) lo hi
  simp only [List.length_append, List.append_assoc] at hG
  generalize hS : (A ++ (F ++ (M ++ T))).map some ++ rest = S at hG ⊢
  generalize hen : A.length + (F.length + M.length) = en at hG ⊢
  have hf := takeFront_run ⟨S, A.length, cp⟩ ((M ++ T).map some ++ rest) F (A.map some) take ⟨en, l - en, A.length, en⟩ w
    (by simp [← hS]) (by simp) (by simp only [← hen, Nat.add_sub_cancel_left]; exact hF)
  have hrr := fun w' => readRange_run ⟨S, A.length, cp⟩ (A.map some ++ F.map some) (T.map some ++ rest) M (A.length + F.length) en w'
    (by simp [← hS]) (by simp) (by rw [← hen, Nat.add_assoc])
  simp only [hf, hrr]
  obtain ⟨kd, w2, r, hde, hkd, hev2, hb2, hn2, hr1, hr2, hr3⟩ := dropEach_spec c M { w with evs := w.evs ++ movedEvs F }
  rw [hde]
  cases r with
  | some left =>
    obtain ⟨v3, hm, hrep⟩ := (hG en en).moveBack (dropAll c left w2).1
    simp only [hm, It.dropRest]
    refine ⟨0, v3, _, none, rfl, Nat.zero_le _, by simpa using hrep, ?_, by rw [dropAll_bad, dropAll_bad, hb2],
      by rw [dropAll_nextId, dropAll_nextId, hn2], by simp, fun _ hnp _ _ => by have := hr3 hnp; cases this⟩
    rw [dropAll_evs, dropAll_evs, hev2, hr2 left rfl, List.drop_zero, List.append_assoc (w.evs ++ movedEvs F), ← dropEvs_append,
      List.take_append_drop]
  | none =>
    obtain ⟨j, v', w', r, e1, e2, e3, hj, hrep, hev, hb, hn, hres, hgd⟩ :=
      splice_finish (front := F) _ (spliceBody_spec hc N (hG en en) src w2)
    subst e1 e2 e3
    refine ⟨j, _, _, _, rfl, hj, hrep, by rw [hev, hev2, hr1 rfl, List.take_length], by rw [hb, hb2], by rw [hn, hn2], hres,
      fun hnp _ hg hN => hgd ⟨hnp, hg, ?_⟩⟩
    have := (hG en en).tailLen
    simp only [List.length_append, List.length_map] at hN this hl ⊢
    omega

/-- the pieces of a vector under `splice(st..en, _)` whose first `k` drained elements are taken: kept prefix, taken
front, dropped rest of the range, tail -/
theorem splice_split (xs : List Elem) {st en : Nat} (k : Nat) (hse : st ≤ en) (hen : en ≤ xs.length) (hk : k ≤ en - st) :
    xs = xs.take st ++ ((xs.drop st).take k ++ ((xs.drop (st + k)).take (en - (st + k)) ++ xs.drop en)) ∧
      (xs.take st).length = st ∧ ((xs.drop st).take k).length = k ∧
      ((xs.drop st).take k).length + ((xs.drop (st + k)).take (en - (st + k))).length = en - st := by
  obtain ⟨hle, hA, hF, hB, _, hFMB⟩ := drain_split_lengths xs st en k 0 hk (Nat.zero_le _) hse hen rfl rfl rfl rfl
  have hx := drain_split xs st en k 0 hle
  rw [List.eq_nil_of_length_eq_zero hB, List.nil_append] at hx
  exact ⟨hx, hA, hF, by rw [← hFMB, hB]; rfl⟩

theorem spliceOp_spec {c : Cfg} (hc : CfgOK c) (N : Nat) {v : VS} {xs : List Elem} (h : RepB c v xs) {s e : Bd} {st en : Nat}
    (hok : DrainOK c xs.length s e st en) (src : Src) (take : Nat) (w : W) :
    ∃ (j : Nat) (v' : VS) (w' : W) (r : Option (List Elem)), spliceOp c v s e (.src src) take w = (v', w', r) ∧
      j ≤ src.items.length ∧ RepB c v' (xs.take st ++ src.items.take j ++ xs.drop en) ∧
      w'.evs = w.evs ++ movedEvs ((xs.drop st).take (min take (en - st))) ++
        dropEvs c ((xs.drop (st + min take (en - st))).take (en - (st + min take (en - st)))) ++ dropEvs c (src.items.drop j) ∧
      w'.bad = w.bad ∧ w'.nextId = w.nextId ∧
      (∀ m, r = some m → m = (xs.drop st).take (min take (en - st)) ∧ j = src.items.length) ∧
      (src.panicAt = none → c.dropPanicAt = none → GrowOK c N → xs.length + src.items.length + src.hint ≤ N →
        r = some ((xs.drop st).take (min take (en - st)))) := by
  have hk : min take (en - st) ≤ en - st := Nat.min_le_right _ _
  generalize he1 : min take (en - st) = k at hk ⊢
  obtain ⟨hx, hA, hF, hFM⟩ := splice_split xs k hok.2.2.1 hok.2.2.2 hk
  rw [← h.len]
  exact spliceOp_run hc N (hx ▸ h) (by rw [hA, hFM, h.len, Nat.add_sub_cancel' hok.2.2.1]; exact hok) src take w
    (by rw [hFM, hF, he1])

theorem Own.splice {c : Cfg} {ins held : List Nat} {A F M T items : List Elem} {evs : List Ev} (hd : c.needsDrop = true)
    (ho : Own ins (A ++ (F ++ (M ++ T))) evs (ids items ++ held)) (j : Nat) :
    Own ins (A ++ items.take j ++ T) (evs ++ movedEvs F ++ dropEvs c M ++ dropEvs c (items.drop j)) held := by
  apply ho.of_count
  intro x
  have := count_take_drop items j x
  simp only [evDrops_append, evMoved_append, evDrops_movedEvs, evMoved_movedEvs, evDrops_dropEvs c hd,
    evMoved_dropEvs, ids_append, List.count_append, List.count_nil]
  omega

theorem spliceOp_own {c : Cfg} {v : VS} {xs : List Elem} {ins held : List Nat} (hc : CfgOK c) (hd : c.needsDrop = true)
    (h : RepB c v xs) (s e : Bd) (src : Src) (take : Nat) (w : W) (ho : Own ins xs w.evs (ids src.items ++ held)) :
    ∃ ys, RepB c (spliceOp c v s e (.src src) take w).1 ys ∧ Own ins ys (spliceOp c v s e (.src src) take w).2.1.evs held := by
  by_cases hok : ∃ st en, DrainOK c v.len s e st en
  · obtain ⟨st, en, hok⟩ := hok
    rw [h.len] at hok
    obtain ⟨j, v', w', r, hrun, hj, hrep, hev, _⟩ := spliceOp_spec hc 0 h hok src take w
    rw [hrun, hev]
    obtain ⟨hx, _⟩ := splice_split xs (min take (en - st)) hok.2.2.1 hok.2.2.2 (Nat.min_le_right _ _)
    exact ⟨_, hrep, Own.splice hd (hx ▸ ho) j⟩
  · rw [spliceOp_panics hok]
    refine ⟨xs, h, ?_⟩
    simp only [It.dropRest, dropAll_evs]
    simpa using ho.take_in hd 0

end Bump.V
