import BumpVerif.Proofs.VecCore
/-!
# Ownership ledger over the event log

`Own ins xs evs held`: the ids owned by the vector (`xs`), the ids whose destructor ran, the
ids handed to the caller and the ids held elsewhere (other containers, the caller's pending
arguments, leaked values) together are exactly the ids ever created (`ins`), each once.
-/
namespace Bump.V
open Bump

def evDrops (evs : List Ev) : List Nat := evs.filterMap fun | .drop i => some i | _ => none
def evMoved (evs : List Ev) : List Nat := evs.filterMap fun | .moveOut i => some i | _ => none
def ids (xs : List Elem) : List Nat := xs.map (·.id)

def Own (ins : List Nat) (xs : List Elem) (evs : List Ev) (held : List Nat) : Prop :=
  (ids xs ++ evDrops evs ++ evMoved evs ++ held).Perm ins ∧ ins.Nodup

@[simp] theorem evDrops_append (a b : List Ev) : evDrops (a ++ b) = evDrops a ++ evDrops b := by simp [evDrops]
@[simp] theorem evMoved_append (a b : List Ev) : evMoved (a ++ b) = evMoved a ++ evMoved b := by simp [evMoved]
@[simp] theorem ids_append (a b : List Elem) : ids (a ++ b) = ids a ++ ids b := by simp [ids]
@[simp] theorem ids_cons (a : Elem) (b : List Elem) : ids (a :: b) = a.id :: ids b := rfl
@[simp] theorem ids_nil : ids [] = [] := rfl
@[simp] theorem ids_reverse (a : List Elem) : ids a.reverse = (ids a).reverse := by simp [ids]
@[simp] theorem evDrops_moved (i : Nat) : evDrops [Ev.moveOut i] = [] := rfl
@[simp] theorem evDrops_drop (i : Nat) : evDrops [Ev.drop i] = [i] := rfl
@[simp] theorem evMoved_moved (i : Nat) : evMoved [Ev.moveOut i] = [i] := rfl
@[simp] theorem evMoved_drop (i : Nat) : evMoved [Ev.drop i] = [] := rfl
@[simp] theorem evDrops_nil : evDrops [] = [] := rfl
@[simp] theorem evMoved_nil : evMoved [] = [] := rfl

theorem evDrops_dropEvs (c : Cfg) (h : c.needsDrop = true) (es : List Elem) : evDrops (dropEvs c es) = ids es := by
  simp [dropEvs, h, evDrops, ids, List.filterMap_map, Function.comp_def]

theorem evMoved_dropEvs (c : Cfg) (es : List Elem) : evMoved (dropEvs c es) = [] := by
  unfold dropEvs
  split
  · simp [evMoved, List.filterMap_map]
  · rfl

def movedEvs (es : List Elem) : List Ev := es.map (fun e => Ev.moveOut e.id)

theorem movedEvs_append (a b : List Elem) : movedEvs (a ++ b) = movedEvs a ++ movedEvs b := by simp [movedEvs]

theorem evDrops_movedEvs (es : List Elem) : evDrops (movedEvs es) = [] := by
  simp [movedEvs, evDrops, List.filterMap_map, Function.comp_def]

theorem evMoved_movedEvs (es : List Elem) : evMoved (movedEvs es) = ids es := by
  simp [movedEvs, evMoved, ids, List.filterMap_map, Function.comp_def]

theorem W.moved_evs (w : W) (e : Elem) : (w.moved e).evs = w.evs ++ movedEvs [e] := rfl

theorem W.moved_bad (w : W) (e : Elem) : (w.moved e).bad = w.bad := rfl

theorem W.moved_nextId (w : W) (e : Elem) : (w.moved e).nextId = w.nextId := rfl

theorem W.moved_append_movedEvs (w : W) (e : Elem) (F : List Elem) :
    ({ w.moved e with evs := (w.moved e).evs ++ movedEvs F } : W) = { w with evs := w.evs ++ movedEvs (e :: F) } := by
  simp [W.moved, W.emit, movedEvs]

theorem Own.distinct {ins xs evs held} (h : Own ins xs evs held) :
    (ids xs).Nodup ∧ (∀ i ∈ ids xs, i ∉ evDrops evs ∧ i ∉ evMoved evs) ∧ (evDrops evs).Nodup ∧
      (∀ i ∈ evDrops evs, i ∉ evMoved evs) := by
  have hn : (ids xs ++ evDrops evs ++ evMoved evs ++ held).Nodup := (h.1.nodup_iff).mpr h.2
  simp only [List.nodup_append, List.mem_append] at hn
  obtain ⟨⟨⟨hx, hd, hxd⟩, hm, hxdm⟩, hh, hall⟩ := hn
  refine ⟨hx, ?_, hd, ?_⟩
  · intro i hi
    refine ⟨fun hd' => hxd i hi i hd' rfl, fun hm' => hxdm i (Or.inl hi) i hm' rfl⟩
  · intro i hi hm'
    exact hxdm i (Or.inr hi) i hm' rfl

/-- counting argument: the ledger moves ids between its four parts -/
theorem Own.of_count {ins xs evs held xs' evs' held'} (h : Own ins xs evs held)
    (hc : ∀ a, (ids xs').count a + (evDrops evs').count a + (evMoved evs').count a + held'.count a
             = (ids xs).count a + (evDrops evs).count a + (evMoved evs).count a + held.count a) :
    Own ins xs' evs' held' := by
  refine ⟨?_, h.2⟩
  apply List.Perm.trans _ h.1
  rw [List.perm_iff_count]
  intro a
  simp only [List.count_append]
  exact hc a

/-- the ledger under an operation that takes the values `inn` from the caller and gives up elements: of
`xs ++ inn`, `ys` is owned afterwards, `ds` went to destructors, `ms` to the caller, `lk` is leaked -/
theorem Own.exchange {ins xs evs held} (inn ys ds ms lk : List Elem) {evs' : List Ev} (h : Own ins xs evs (ids inn ++ held))
    (hx : (xs ++ inn).Perm (ys ++ (ds ++ (ms ++ lk))))
    (hd : evDrops evs' = evDrops evs ++ ids ds) (hm : evMoved evs' = evMoved evs ++ ids ms) :
    Own ins ys evs' (ids lk ++ held) := by
  apply h.of_count
  intro a
  have : (ids (xs ++ inn)).count a = (ids (ys ++ (ds ++ (ms ++ lk)))).count a := (hx.map (fun e : Elem => e.id)).count_eq a
  simp only [hd, hm, ids_append, List.count_append] at this ⊢
  omega

theorem Own.split {ins xs evs held} (ys ds ms lk : List Elem) {evs' : List Ev} (h : Own ins xs evs held)
    (hx : xs.Perm (ys ++ (ds ++ (ms ++ lk))))
    (hd : evDrops evs' = evDrops evs ++ ids ds) (hm : evMoved evs' = evMoved evs ++ ids ms) :
    Own ins ys evs' (ids lk ++ held) :=
  Own.exchange [] ys ds ms lk h (by rwa [List.append_nil]) hd hm

theorem Own.of_perm {ins xs ys evs held} (h : Own ins xs evs held) (hp : ys.Perm xs) : Own ins ys evs held :=
  h.split ys [] [] [] (by simpa using hp.symm) (by simp) (by simp)

theorem Own.push_held {ins xs evs held} (x : Elem) (h : Own ins xs evs (x.id :: held)) : Own ins (xs ++ [x]) evs held :=
  h.exchange [x] _ [] [] [] (.of_eq (by simp)) (by simp) (by simp)

theorem Own.exchange_drop {c : Cfg} {ins xs evs held} (hd : c.needsDrop = true) (inn ys ds : List Elem)
    (h : Own ins xs evs (ids inn ++ held)) (hx : (xs ++ inn).Perm (ys ++ ds)) : Own ins ys (evs ++ dropEvs c ds) held :=
  h.exchange inn ys ds [] [] (by simpa using hx) (by rw [evDrops_append, evDrops_dropEvs c hd])
    (by rw [evMoved_append, evMoved_dropEvs]; rfl)

theorem Own.move_out {ins xs ys held} {w : W} (x : Elem) (h : Own ins xs w.evs held) (hx : xs.Perm (ys ++ [x])) :
    Own ins ys (w.moved x).evs held :=
  h.split ys [] [x] [] (by simpa using hx) (by simp [W.moved_evs, evDrops_movedEvs]) (by simp [W.moved_evs, evMoved_movedEvs])

theorem Own.drop_held {c : Cfg} {ins xs held} {w : W} (hd : c.needsDrop = true) (x : Elem) (h : Own ins xs w.evs (x.id :: held)) :
    Own ins xs (dropElem c w x).1.evs held := by
  rw [dropElem_evs]
  exact h.exchange_drop hd [x] xs [x] (.refl _)

theorem Own.take_in {c : Cfg} {ins held : List Nat} {xs es : List Elem} {evs : List Ev} (hd : c.needsDrop = true)
    (ho : Own ins xs evs (ids es ++ held)) (j : Nat) : Own ins (xs ++ es.take j) (evs ++ dropEvs c (es.drop j)) held :=
  ho.exchange_drop hd es _ (es.drop j) (.of_eq (by rw [List.append_assoc, List.take_append_drop]))

/-- the contents are handed to the caller without an event (`into_bump_slice`, a finished clone) -/
theorem Own.release {ins xs evs held} (h : Own ins xs evs held) : Own ins [] evs (ids xs ++ held) :=
  h.split [] [] [] xs (by simp) (by simp) (by simp)

theorem count_take_drop (xs : List Elem) (i : Nat) (a : Nat) :
    (ids xs).count a = (ids (xs.take i)).count a + (ids (xs.drop i)).count a := by
  have := congrArg (fun l => (ids l).count a) (List.take_append_drop i xs)
  simp only [ids_append, List.count_append] at this
  exact this.symm

theorem perm_eraseIdx {α} (xs : List α) (i : Nat) (hi : i < xs.length) : xs.Perm (xs.eraseIdx i ++ [xs[i]]) := by
  conv => lhs; rw [take_drop_succ xs i hi]
  rw [List.eraseIdx_eq_take_drop_succ]
  exact List.perm_middle.trans (List.perm_append_singleton _ _).symm

theorem set_last {α} (l : List α) (b : α) (hne : l ≠ []) : l.set (l.length - 1) b = l.dropLast ++ [b] := by
  conv => lhs; arg 1; rw [← List.dropLast_concat_getLast hne]
  rw [List.set_append_right _ _ (by simp)]; simp

theorem perm_swapRemove {α} (xs : List α) (i : Nat) (hi : i < xs.length) (hne : xs ≠ []) :
    xs.Perm ((xs.set i (xs.getLast hne)).dropLast ++ [xs[i]]) := by
  have h1 := List.set_set_perm hi (show xs.length - 1 < xs.length by omega)
  have h2 := set_last (xs.set i (xs.getLast hne)) xs[i] (by simpa using hne)
  rw [← List.getLast_eq_getElem hne] at h1
  rw [List.length_set] at h2
  rw [h2] at h1
  exact h1.symm

theorem push_own {c : Cfg} {v : VS} {xs : List Elem} {ins held : List Nat} (hc : CfgOK c) (hd : c.needsDrop = true)
    (h : RepB c v xs) (e : Elem) (w : W) (ho : Own ins xs w.evs (e.id :: held)) :
    ∃ ys, RepB c (push c v e w).1 ys ∧ Own ins ys (push c v e w).2.1.evs held := by
  rcases push_spec hc h e w with ⟨v', hp, hr⟩ | ⟨hp, _, _⟩
  · rw [hp]
    exact ⟨_, hr, ho.push_held e⟩
  · rw [hp]
    exact ⟨_, h, ho.drop_held hd e⟩

theorem pop_own {c : Cfg} {v : VS} {xs : List Elem} {ins held : List Nat} (h : RepB c v xs) (w : W)
    (ho : Own ins xs w.evs held) :
    ∃ ys, RepB c (pop v w).1 ys ∧ Own ins ys (pop v w).2.1.evs held := by
  rcases pop_spec h w with ⟨hx, hp⟩ | ⟨hne, v', hp, hr⟩
  · rw [hp]
    exact ⟨_, h, ho⟩
  · rw [hp]
    exact ⟨_, hr, ho.move_out _ (.of_eq (List.dropLast_concat_getLast hne).symm)⟩

theorem insert_own {c : Cfg} {v : VS} {xs : List Elem} {ins held : List Nat} (hc : CfgOK c) (hd : c.needsDrop = true)
    (h : RepB c v xs) (i : Nat) (e : Elem) (w : W) (ho : Own ins xs w.evs (e.id :: held)) :
    ∃ ys, RepB c (insert c v i e w).1 ys ∧ Own ins ys (insert c v i e w).2.1.evs held := by
  rcases insert_spec hc h i e w with ⟨_, v', hp, hr⟩ | ⟨hp, _⟩
  · have hx : (xs ++ [e]).Perm (xs.take i ++ e :: xs.drop i) := by
      conv => lhs; rw [← List.take_append_drop i xs]
      exact (List.perm_append_singleton _ _).trans List.perm_middle.symm
    rw [hp]
    exact ⟨_, hr, (ho.push_held e).of_perm hx.symm⟩
  · rw [hp]
    exact ⟨_, h, ho.drop_held hd e⟩

theorem remove_own {c : Cfg} {v : VS} {xs : List Elem} {ins held : List Nat} (h : RepB c v xs) (i : Nat) (w : W)
    (ho : Own ins xs w.evs held) :
    ∃ ys, RepB c (remove c v i w).1 ys ∧ Own ins ys (remove c v i w).2.1.evs held := by
  rcases remove_spec h i w with ⟨hi, v', hp, hr⟩ | ⟨_, hp⟩
  · rw [hp]
    exact ⟨_, hr, ho.move_out _ (perm_eraseIdx xs i hi)⟩
  · rw [hp]
    exact ⟨_, h, ho⟩

theorem swapRemove_own {c : Cfg} {v : VS} {xs : List Elem} {ins held : List Nat} (h : RepB c v xs) (i : Nat) (w : W)
    (ho : Own ins xs w.evs held) :
    ∃ ys, RepB c (swapRemove c v i w).1 ys ∧ Own ins ys (swapRemove c v i w).2.1.evs held := by
  rcases swapRemove_spec h i w with ⟨hi, v', hp, hr⟩ | ⟨_, hp⟩
  · rw [hp]
    exact ⟨_, hr, ho.move_out _ (perm_swapRemove xs i hi _)⟩
  · rw [hp]
    exact ⟨_, h, ho⟩

theorem truncate_own {c : Cfg} {v : VS} {xs : List Elem} {ins held : List Nat} (hd : c.needsDrop = true)
    (h : RepB c v xs) (n : Nat) (w : W) (ho : Own ins xs w.evs held) :
    ∃ ys, RepB c (truncate c v n w).1 ys ∧ Own ins ys (truncate c v n w).2.1.evs held := by
  obtain ⟨m, v', w', r, hp, _, _, hr, hev, _⟩ := truncate_spec h n w
  have hx : (xs ++ []).Perm (xs.take m ++ (xs.drop m).reverse) := by
    rw [List.append_nil]
    exact (List.Perm.of_eq (List.take_append_drop m xs).symm).trans ((List.reverse_perm _).symm.append_left _)
  rw [hp]
  exact ⟨_, hr, hev ▸ ho.exchange_drop hd [] _ _ hx⟩

theorem dropVec_evs {c : Cfg} {v : VS} {xs : List Elem} (h : RepB c v xs) (w : W) :
    (dropVec c v w).1.evs = w.evs ++ dropEvs c xs := by
  rw [dropVec, show v.owned = xs from h.toRep.abs_eq, dropAll_evs]

theorem dropVec_own {c : Cfg} {v : VS} {xs : List Elem} {ins held : List Nat} (hd : c.needsDrop = true)
    (h : RepB c v xs) (w : W) (ho : Own ins xs w.evs held) :
    Own ins [] (dropVec c v w).1.evs held :=
  dropVec_evs h w ▸ ho.exchange_drop hd [] [] xs (by simp)

theorem Own.exactly_once {ins evs} (h : Own ins [] evs []) :
    (evDrops evs ++ evMoved evs).Perm ins ∧ (evDrops evs ++ evMoved evs).Nodup := by
  have hp : (evDrops evs ++ evMoved evs).Perm ins := by simpa [Own] using h.1
  exact ⟨hp, hp.nodup_iff.mpr h.2⟩

end Bump.V
