import BumpVerif.Proofs.StrLossy
/-!
# `fromUtf8Lossy_spec`: the lossy decoder equals the "U+FFFD per maximal subpart" reference decoder

The reference is defined from well-formedness alone (Unicode Table 3-7 through `encChar` /
`decodeHead`; the width table does not occur): well-formed sequences are copied; where none
starts, the *maximal subpart* of the ill-formed subsequence (Unicode 3.9: the longest initial
subsequence of some well-formed sequence, or one byte) is replaced by U+FFFD.
`fromUtf8Lossy_valid` (the output is always valid) and `fromUtf8Lossy_id` (identity on valid input) are read off the reference decoder.
-/
namespace Bump.Str

def PrefixOfWellFormed (p : Bytes) : Prop := ∃ c : Char, p <+: encChar c

def IsMaximalSubpart (t : Bytes) (k : Nat) : Prop :=
  1 ≤ k ∧ k ≤ t.length ∧ (k = 1 ∨ PrefixOfWellFormed (t.take k)) ∧
    ∀ k', k < k' → k' ≤ t.length → ¬ PrefixOfWellFormed (t.take k')

inductive RefLossy : Bytes → Bytes → Prop where
  | nil : RefLossy [] []
  | scalar (c : Char) (t out : Bytes) : RefLossy t out → RefLossy (encChar c ++ t) (encChar c ++ out)
  | broken (t out : Bytes) (k : Nat) : t ≠ [] → decodeHead t = none → IsMaximalSubpart t k →
      RefLossy (t.drop k) out → RefLossy t (REPLACEMENT ++ out)

theorem prefix_wf_decode {p : Bytes} (h : PrefixOfWellFormed p) :
    ∃ c q, decodeHead (p ++ q) = some (c, (p ++ q).length) ∧ encChar c = p ++ q := by
  obtain ⟨c, q, hq⟩ := h
  refine ⟨c, q, ?_, hq.symm⟩
  have := decodeHead_enc c []
  rw [List.append_nil] at this
  rw [hq]; exact this

/-- An `err k` leaf of the loop body: byte `k` failed its test, so nothing that agrees with `b0 :: t` on the `k` bytes after
the lead decodes (`h`) — hence no longer initial part of `b0 :: t` starts a well-formed sequence. -/
theorem err_leaf {b0 : UInt8} {t : Bytes} {k : Nat} (h1 : 1 ≤ k) (hl : k ≤ (b0 :: t).length)
    (hp : k = 1 ∨ PrefixOfWellFormed ((b0 :: t).take k))
    (h : ∀ t', (∀ j, j < k → t'.getD j 0 = t.getD j 0) → decodeHead (b0 :: t') = none) :
    decodeHead (b0 :: t) = none ∧ IsMaximalSubpart (b0 :: t) k := by
  refine ⟨h t fun _ _ => rfl, h1, hl, hp, fun k' hk hl' hp' => ?_⟩
  obtain ⟨c, q, hd, -⟩ := prefix_wf_decode hp'
  match k', hk with
  | k' + 1, hk =>
    rw [List.take_succ_cons, List.cons_append, h] at hd
    · cases hd
    · intro j hj
      have hl'' : k' ≤ t.length := by simpa using hl'
      rw [List.getD_eq_getElem?_getD, List.getD_eq_getElem?_getD,
        List.getElem?_append_left (by rw [List.length_take]; omega), List.getElem?_take_of_lt (by omega)]

theorem isCont_80 : isCont 0x80 = true := by decide

theorem prefix_3 (b0 b1 : UInt8) (h0 : 0xE0 ≤ b0.toNat) (h1 : b0.toNat < 0xF0)
    (k1 : inRange (secondLo b0.toNat) (secondHi b0.toNat) b1 = true) : PrefixOfWellFormed [b0, b1] :=
  ⟨_, [0x80], (enc_bytes_3 b0 b1 0x80 h0 h1 k1 isCont_80).symm⟩

theorem prefix_4_2 (b0 b1 : UInt8) (h0 : 0xF0 ≤ b0.toNat) (h1 : b0.toNat < 0xF5)
    (k1 : inRange (secondLo b0.toNat) (secondHi b0.toNat) b1 = true) : PrefixOfWellFormed [b0, b1] :=
  ⟨_, [0x80, 0x80], (enc_bytes_4 b0 b1 0x80 0x80 h0 h1 k1 isCont_80 isCont_80).symm⟩

theorem prefix_4_3 (b0 b1 b2 : UInt8) (h0 : 0xF0 ≤ b0.toNat) (h1 : b0.toNat < 0xF5)
    (k1 : inRange (secondLo b0.toNat) (secondHi b0.toNat) b1 = true) (k2 : isCont b2 = true) :
    PrefixOfWellFormed [b0, b1, b2] :=
  ⟨_, [0x80], (enc_bytes_4 b0 b1 b2 0x80 h0 h1 k1 k2 isCont_80).symm⟩

def SufR.Agrees (t : Bytes) : SufR → Prop
  | .adv n => ∃ c, decodeHead t = some (c, n)
  | .err k => decodeHead t = none ∧ IsMaximalSubpart t k

/-- `sufStep_cons` and `decodeHead_cons` are the same decision tree.  An `err k` leaf is reached because byte `k` (read as `0`
when missing) failed its test (`err_leaf`); for `k ≥ 2` the bytes before it passed theirs, and `0x80`s complete them to a
well-formed sequence. -/
theorem sufStep_agrees (b0 : UInt8) (t : Bytes) : (sufStep (b0 :: t)).Agrees (b0 :: t) := by
  rw [sufStep_cons]
  by_cases c1 : b0.toNat < 0x80
  · rw [if_pos c1]; exact ⟨_, by rw [decodeHead_cons, if_pos c1]⟩
  rw [if_neg c1]
  by_cases c2 : b0.toNat < 0xC2
  · rw [if_pos c2]
    exact err_leaf (Nat.le_refl _) (Nat.le_add_left _ _) (Or.inl rfl) fun t' _ => by rw [decodeHead_cons, if_neg c1, if_pos c2]
  rw [if_neg c2]
  by_cases c3 : b0.toNat < 0xE0
  · rw [if_pos c3]
    have dh (t' : Bytes) := (decodeHead_cons b0 t').trans (by rw [if_neg c1, if_neg c2, if_pos c3])
    cases k1 : isCont (t.getD 0 0)
    · exact err_leaf (Nat.le_refl _) (Nat.le_add_left _ _) (Or.inl rfl) fun t' e => by rw [dh, e 0 (by omega), k1]; rfl
    · exact ⟨_, by rw [dh, k1]; rfl⟩
  rw [if_neg c3]
  by_cases c4 : b0.toNat < 0xF0
  · rw [if_pos c4]
    have dh (t' : Bytes) := (decodeHead_cons b0 t').trans (by rw [if_neg c1, if_neg c2, if_neg c3, if_pos c4])
    cases k1 : inRange (secondLo b0.toNat) (secondHi b0.toNat) (t.getD 0 0)
    · exact err_leaf (Nat.le_refl _) (Nat.le_add_left _ _) (Or.inl rfl) fun t' e => by rw [dh, e 0 (by omega), k1]; rfl
    obtain ⟨b1, t, rfl⟩ := exists_cons_of_second k1
    cases k2 : isCont ((b1 :: t).getD 1 0)
    · exact err_leaf (by omega) (Nat.le_add_left _ _) (Or.inr (prefix_3 b0 b1 (by omega) c4 k1))
        fun t' e => by rw [dh, e 0 (by omega), e 1 (by omega), k1, k2]; rfl
    · exact ⟨_, by rw [dh, k1, k2]; rfl⟩
  rw [if_neg c4]
  by_cases c5 : b0.toNat < 0xF5
  · rw [if_pos c5]
    have dh (t' : Bytes) := (decodeHead_cons b0 t').trans
      (by rw [if_neg c1, if_neg c2, if_neg c3, if_neg c4, if_pos c5])
    cases k1 : inRange (secondLo b0.toNat) (secondHi b0.toNat) (t.getD 0 0)
    · exact err_leaf (Nat.le_refl _) (Nat.le_add_left _ _) (Or.inl rfl) fun t' e => by rw [dh, e 0 (by omega), k1]; rfl
    obtain ⟨b1, t, rfl⟩ := exists_cons_of_second k1
    cases k2 : isCont ((b1 :: t).getD 1 0)
    · exact err_leaf (by omega) (Nat.le_add_left _ _) (Or.inr (prefix_4_2 b0 b1 (by omega) c5 k1))
        fun t' e => by rw [dh, e 0 (by omega), e 1 (by omega), k1, k2]; rfl
    obtain ⟨b2, t, rfl⟩ := exists_cons_of_isCont (t := t) k2
    cases k3 : isCont ((b1 :: b2 :: t).getD 2 0)
    · exact err_leaf (by omega) (Nat.le_add_left _ _) (Or.inr (prefix_4_3 b0 b1 b2 (by omega) c5 k1 k2))
        fun t' e => by rw [dh, e 0 (by omega), e 1 (by omega), e 2 (by omega), k1, k2, k3]; rfl
    · exact ⟨_, by rw [dh, k1, k2, k3]; rfl⟩
  · rw [if_neg c5]
    exact err_leaf (Nat.le_refl _) (Nat.le_add_left _ _) (Or.inl rfl) fun t' _ => by
      rw [decodeHead_cons, if_neg c1, if_neg c2, if_neg c3, if_neg c4, if_neg c5]

theorem sufStep_decode (t : Bytes) :
    (∀ n, sufStep t = .adv n → ∃ c, decodeHead t = some (c, n)) ∧
    (∀ k, sufStep t = .err k → decodeHead t = none) := by
  match t with
  | [] => exact ⟨fun _ h => (nomatch h), fun _ _ => rfl⟩
  | b0 :: t =>
    have := sufStep_agrees b0 t
    exact ⟨fun n h => by rw [h] at this; exact this, fun k h => by rw [h] at this; exact this.1⟩

theorem RefLossy_nil_inv {o : Bytes} (h : RefLossy [] o) : o = [] := by
  generalize hv : ([] : Bytes) = v at h
  cases h with
  | nil => rfl
  | scalar c t out _ =>
    have := congrArg List.length hv
    have := encChar_length_pos c
    simp only [List.length_nil, List.length_append] at *; omega
  | broken t out k hne => exact absurd hv.symm hne

theorem RefLossy_append_valid (l : List Char) {t out : Bytes} (h : RefLossy t out) :
    RefLossy (encode l ++ t) (encode l ++ out) := by
  induction l with
  | nil => simpa using h
  | cons c l ih =>
    rw [encode_cons, List.append_assoc, List.append_assoc]
    exact RefLossy.scalar c _ _ ih

theorem RefLossy_valid (l : List Char) : RefLossy (encode l) (encode l) := by
  have := RefLossy_append_valid l RefLossy.nil
  simpa using this

theorem lossyScan_shape (src : Bytes) : ∀ (fuel i : Nat), i ≤ src.length → src.length - i < fuel →
    ∃ ch, lossyScan src fuel i = some ch ∧ ∃ l, src.drop i = encode l ++ (ch.broken ++ ch.rest) ∧
      ch.valid = src.take i ++ encode l ∧ (ch.broken = [] → ch.rest = []) ∧
      ∀ out, RefLossy ch.rest out →
        RefLossy (ch.broken ++ ch.rest) ((if ch.broken ≠ [] then REPLACEMENT else []) ++ out) := by
  intro fuel
  induction fuel with
  | zero => intro i _ h; omega
  | succ f ih =>
    intro i hi hf
    by_cases hlt : i < src.length
    · rw [lossyScan, if_pos hlt, lossyStep_eq src i hlt]
      have hag : (sufStep (src.drop i)).Agrees (src.drop i) := by
        rw [List.drop_eq_getElem_cons hlt]; exact sufStep_agrees _ _
      cases hs : sufStep (src.drop i) with
      | adv n =>
        rw [hs] at hag
        obtain ⟨c, hc⟩ := hag
        obtain ⟨hd, rfl⟩ := decodeHead_some hc
        rw [List.drop_drop] at hd
        have hpos := encChar_length_pos c
        have hle : i + (encChar c).length ≤ src.length := by
          have := congrArg List.length hd
          simp only [List.length_drop, List.length_append] at this; omega
        obtain ⟨ch, hch, l, hl, hv, hb, href⟩ := ih _ hle (by omega)
        refine ⟨ch, hch, c :: l, ?_, ?_, hb, href⟩
        · rw [hd, hl, encode_cons, List.append_assoc]
        · rw [hv, encode_cons, ← List.append_assoc, List.take_add, hd, List.take_left' rfl]
      | err k =>
        rw [hs] at hag
        obtain ⟨hnone, hmax⟩ := hag
        have hbr : (src.drop i).take k ≠ [] := by
          intro h; have := congrArg List.length h
          simp only [List.length_take, List.length_drop, List.length_nil] at this; have := hmax.1; omega
        simp only [SufR.at, Nat.add_sub_cancel_left, ← List.drop_drop]
        refine ⟨_, rfl, [], (List.take_append_drop k _).symm, (List.append_nil _).symm, fun h => absurd h hbr,
          fun out hout => ?_⟩
        rw [if_pos hbr, List.take_append_drop]
        exact RefLossy.broken _ _ k (List.ne_nil_of_take_ne_nil hbr) hnone hmax hout
    · have hi' : src.length ≤ i := Nat.le_of_not_lt hlt
      rw [lossyScan, if_neg hlt]
      refine ⟨_, rfl, [], ?_, ?_, fun _ => rfl, fun out h => by simpa using h⟩
      · rw [List.drop_eq_nil_of_le hi']; rfl
      · rw [List.take_of_length_le hi']; exact (List.append_nil _).symm

theorem lossyNext_ref {src : Bytes} (hne : src ≠ []) :
    ∃ ch, lossyNext src = some ch ∧ ch.rest.length < src.length ∧ src = ch.valid ++ (ch.broken ++ ch.rest) ∧
      (ch.broken = [] → ch.rest = []) ∧
      ∀ out, RefLossy ch.rest out → RefLossy src (ch.valid ++ (if ch.broken ≠ [] then REPLACEMENT else []) ++ out) := by
  obtain ⟨ch, hch, l, hl, hv, hb, href⟩ := lossyScan_shape src (src.length + 1) 0 (Nat.zero_le _) (by omega)
  rw [List.drop_zero] at hl
  rw [List.take_zero, List.nil_append] at hv
  refine ⟨ch, by rw [lossyNext, if_neg hne]; exact hch, ?_, hv ▸ hl, hb, fun out hout => ?_⟩
  · by_cases h : ch.broken = []
    · rw [hb h]; exact List.length_pos_iff.mpr hne
    · have := congrArg List.length hl
      have := List.length_pos_iff.mpr h
      simp only [List.length_append] at *; omega
  · rw [hl, hv, List.append_assoc]
    exact RefLossy_append_valid l (href out hout)

/-- the two pushes of the loop body in `from_utf8_lossy_in` -/
theorem push_chunk (res : Bytes) (ch : Chunk) :
    (if ch.broken ≠ [] then pushStr (pushStr res ch.valid) REPLACEMENT else pushStr res ch.valid) =
      res ++ (ch.valid ++ if ch.broken ≠ [] then REPLACEMENT else []) := by
  unfold pushStr
  split
  · exact List.append_assoc _ _ _
  · rw [List.append_nil]

theorem lossyRest_ref : ∀ (fuel : Nat) (src res : Bytes), src.length < fuel →
    ∃ o, lossyRest fuel src res = .ok (res ++ o) ∧ RefLossy src o := by
  intro fuel
  induction fuel with
  | zero => intro src res h; omega
  | succ f ih =>
    intro src res hf
    by_cases hne : src = []
    · subst hne; exact ⟨[], by simp [lossyRest, lossyNext], RefLossy.nil⟩
    · obtain ⟨ch, hch, hlt, -, -, href⟩ := lossyNext_ref hne
      simp only [lossyRest, hch, push_chunk]
      obtain ⟨o, ho, hro⟩ := ih ch.rest (res ++ (ch.valid ++ if ch.broken ≠ [] then REPLACEMENT else [])) (by omega)
      exact ⟨_, by rw [ho, List.append_assoc], href o hro⟩

/-- `from_utf8_lossy_in` computes the reference decoding ("U+FFFD per maximal
subpart", defined from Table 3-7 without the width table). -/
theorem fromUtf8Lossy_spec (dbg : Bool) (v : Bytes) : ∃ out, fromUtf8Lossy dbg v = .ok out ∧ RefLossy v out := by
  by_cases hne : v = []
  · subst hne; exact ⟨[], by simp [fromUtf8Lossy, lossyNext], RefLossy.nil⟩
  · obtain ⟨ch, hch, hlt, hv, hb, href⟩ := lossyNext_ref hne
    simp only [fromUtf8Lossy, hch, push_chunk]
    by_cases hbn : ch.broken = []
    · -- the whole input was one valid chunk, which is copied unchanged
      have hr := hb hbn
      rw [hbn, hr, List.append_nil, List.append_nil] at hv
      refine ⟨v, by simp [hbn, ← hv], ?_⟩
      simpa [hbn, ← hv] using href [] (hr ▸ RefLossy.nil)
    · have hlen : ¬ ch.valid.length = v.length := by
        have := congrArg List.length hv
        have := List.length_pos_iff.mpr hbn
        simp only [List.length_append] at *; omega
      rw [if_neg hlen]
      obtain ⟨o, ho, hro⟩ := lossyRest_ref (v.length + 1) ch.rest _ (by omega)
      exact ⟨_, ho, href o hro⟩

theorem maximal_unique {t : Bytes} {k₁ k₂ : Nat} (h₁ : IsMaximalSubpart t k₁) (h₂ : IsMaximalSubpart t k₂) : k₁ = k₂ := by
  obtain ⟨a1, a2, a3, a4⟩ := h₁
  obtain ⟨b1, b2, b3, b4⟩ := h₂
  rcases Nat.lt_trichotomy k₁ k₂ with h | h | h
  · rcases b3 with rfl | hp
    · omega
    · exact absurd hp (a4 k₂ h b2)
  · exact h
  · rcases a3 with rfl | hp
    · omega
    · exact absurd hp (b4 k₁ h a2)

theorem RefLossy_functional : ∀ {v o₁ o₂ : Bytes}, RefLossy v o₁ → RefLossy v o₂ → o₁ = o₂ := by
  intro v o₁ o₂ h₁
  induction h₁ generalizing o₂ with
  | nil => intro h₂; exact (RefLossy_nil_inv h₂).symm
  | scalar c t out _ ih =>
    intro h₂
    generalize hv : encChar c ++ t = v at h₂
    cases h₂ with
    | nil =>
      have := congrArg List.length hv
      have := encChar_length_pos c
      simp only [List.length_nil, List.length_append] at *; omega
    | scalar c' t' out' h' =>
      have hd := decodeHead_enc c t
      rw [hv, decodeHead_enc c' t'] at hd
      simp only [Option.some.injEq, Prod.mk.injEq] at hd
      obtain ⟨rfl, -⟩ := hd
      have : t = t' := List.append_cancel_left hv
      subst this
      rw [ih h']
    | broken _ out' k hne hnone =>
      rw [← hv, decodeHead_enc] at hnone; cases hnone
  | broken t out k hne hnone hmax _ ih =>
    intro h₂
    generalize hv : t = v at h₂
    cases h₂ with
    | nil => exact absurd hv hne
    | scalar c t' out' h' => rw [hv, decodeHead_enc] at hnone; cases hnone
    | broken _ out' k' _ _ hmax' h' =>
      subst hv
      have := maximal_unique hmax hmax'
      subst this
      rw [ih h']

theorem fromUtf8Lossy_eq_ref (dbg : Bool) (v out : Bytes) (h : RefLossy v out) : fromUtf8Lossy dbg v = .ok out := by
  obtain ⟨o, ho, hr⟩ := fromUtf8Lossy_spec dbg v
  rw [ho, RefLossy_functional hr h]

theorem REPLACEMENT_valid : Valid REPLACEMENT := ⟨['�'], by decide⟩

theorem RefLossy.valid_out {v out : Bytes} (h : RefLossy v out) : Valid out := by
  induction h with
  | nil => exact Valid_nil
  | scalar c _ _ _ ih => exact Valid_append (Valid_encChar c) ih
  | broken _ _ _ _ _ _ _ ih => exact Valid_append REPLACEMENT_valid ih

/-- for every byte string, `from_utf8_lossy_in` returns normally (no panic —
the `debug_assert!` cannot fire —, no `bad` state) and its output is valid UTF-8. -/
theorem fromUtf8Lossy_valid (dbg : Bool) (v : Bytes) :
    ∃ out, fromUtf8Lossy dbg v = .ok out ∧ Valid out := by
  obtain ⟨out, ho, hr⟩ := fromUtf8Lossy_spec dbg v
  exact ⟨out, ho, hr.valid_out⟩

theorem fromUtf8Lossy_id (dbg : Bool) (l : List Char) : fromUtf8Lossy dbg (encode l) = .ok (encode l) :=
  fromUtf8Lossy_eq_ref dbg _ _ (RefLossy_valid l)

end Bump.Str
