import BumpVerif.Proofs.VecOwn
/-!
# `dedup_by` (vec.rs:114-201, 1396): the swap-based partition keeps the slice a permutation at
every moment, whatever the callback answers and wherever it panics
-/
namespace Bump.V
open Bump

theorem swapSlots_rep (ys : List Elem) (rest : List (Option Elem)) (i j : Nat) (hi : i < ys.length) (hj : j < ys.length) :
    swapSlots (ys.map some ++ rest) i j = ((ys.set i ys[j]).set j ys[i]).map some ++ rest := by
  unfold swapSlots
  rw [getElem?_join_map_some ys rest j hj, getElem?_join_map_some ys rest i hi]
  rw [List.set_append_left _ _ (by simpa using hi), ← List.map_set]
  rw [List.set_append_left _ _ (by simpa using hj), ← List.map_set]

/-- the loop of `partition_dedup_by` -/
theorem dedupLoop_spec (cb : Nat → Elem → Elem → Option Bool) (xs : List Elem) (rest : List (Option Elem)) :
    ∀ (fuel : Nat) (ys : List Elem) (r wr calls : Nat) (w : W), ys.Perm xs → 1 ≤ wr → wr ≤ r →
      ∃ (ys' : List Elem) (wr' : Nat) (ok : Bool),
        dedupLoop cb xs.length fuel (ys.map some ++ rest) r wr calls w = (ys'.map some ++ rest, wr', w, ok) ∧ ys'.Perm xs := by
  intro fuel
  induction fuel with
  | zero => intro ys r wr calls w hp _ _; exact ⟨ys, wr, true, rfl, hp⟩
  | succ f ih =>
    intro ys r wr calls w hp h1 h2
    have hlen : ys.length = xs.length := hp.length_eq
    rw [dedupLoop]
    by_cases hr : r < xs.length
    · have hr' : r < ys.length := hlen ▸ hr
      rw [if_neg (not_not_intro hr), getElem?_join_map_some ys rest r hr', getElem?_join_map_some ys rest (wr - 1) (Nat.lt_of_le_of_lt (Nat.sub_le _ _) (Nat.lt_of_le_of_lt h2 hr'))]
      dsimp only
      cases hcb : cb calls ys[r] ys[wr - 1] with
      | none => exact ⟨ys, wr, false, rfl, hp⟩
      | some same =>
        cases same with
        | true => exact ih ys (r + 1) wr (calls + 1) w hp h1 (Nat.le_succ_of_le h2)
        | false =>
          dsimp only
          by_cases hne : r ≠ wr
          · have hwr : wr < ys.length := Nat.lt_trans (Nat.lt_of_le_of_ne h2 (Ne.symm hne)) hr'
            rw [if_pos hne, swapSlots_rep ys rest r wr hr' hwr]
            exact ih _ (r + 1) (wr + 1) (calls + 1) w ((List.set_set_perm hr' hwr).trans hp) (Nat.le_add_left _ _) (Nat.succ_le_succ h2)
          · rw [if_neg hne]
            exact ih ys (r + 1) (wr + 1) (calls + 1) w hp (Nat.le_add_left _ _) (Nat.succ_le_succ h2)
    · exact ⟨ys, wr, true, by rw [if_pos hr], hp⟩

theorem dedupBy_unfold (c : Cfg) (v : VS) (cb : Nat → Elem → Elem → Option Bool) (w : W) :
    dedupBy c v cb w =
      if v.len ≤ 1 then truncate c v v.len w
      else
        let r := dedupLoop cb v.len v.len v.slots 1 1 0 w
        if r.2.2.2 then truncate c { v with slots := r.1 } r.2.1 r.2.2.1
        else ({ v with slots := r.1 }, r.2.2.1, none) := by
  unfold dedupBy
  split
  · rfl
  · generalize dedupLoop cb v.len v.len v.slots 1 1 0 w = r
    rcases r with ⟨s, wr, w1, ok⟩
    cases ok <;> rfl

theorem dedupBy_own {c : Cfg} {v : VS} {xs : List Elem} {ins held : List Nat} (hd : c.needsDrop = true)
    (h : RepB c v xs) (cb : Nat → Elem → Elem → Option Bool) (w : W) (ho : Own ins xs w.evs held) :
    ∃ ys, RepB c (dedupBy c v cb w).1 ys ∧ Own ins ys (dedupBy c v cb w).2.1.evs held := by
  rw [dedupBy_unfold]
  by_cases h1 : v.len ≤ 1
  · simp only [h1, ↓reduceIte]
    exact truncate_own hd h v.len w ho
  · simp only [h1, ↓reduceIte]
    rcases v with ⟨sl, l, cp⟩
    obtain ⟨rest, rfl, rfl⟩ := h.toRep.nf
    obtain ⟨ys', wr', ok, hrun, hp'⟩ := dedupLoop_spec cb xs rest xs.length xs 1 1 0 w (List.Perm.refl _) (Nat.le_refl _) (Nat.le_refl _)
    simp only [hrun]
    have hlen : ys'.length = xs.length := hp'.length_eq
    have hrep : RepB c ⟨ys'.map some ++ rest, xs.length, cp⟩ ys' := by
      have := h.shrink (ys := ys') (rest' := rest) (by simp [hlen]) (by omega)
      rw [hlen] at this
      exact this
    have ho' : Own ins ys' w.evs held := ho.of_perm hp'
    cases ok with
    | true => exact truncate_own hd hrep wr' w ho'
    | false => exact ⟨ys', hrep, ho'⟩

theorem dedupLoop_succ (cb : Nat → Elem → Elem → Option Bool) (len f : Nat) (s : List (Option Elem)) (r wr calls : Nat) (w : W) :
    dedupLoop cb len (f + 1) s r wr calls w =
      if ¬ r < len then (s, wr, w, true)
      else match (s[r]?).join, (s[wr - 1]?).join with
        | some a, some b =>
          match cb calls a b with
          | none => (s, wr, w, false)
          | some true => dedupLoop cb len f s (r + 1) wr (calls + 1) w
          | some false => dedupLoop cb len f (if r ≠ wr then swapSlots s r wr else s) (r + 1) (wr + 1) (calls + 1) w
        | _, _ => (s, wr, w.flag "dedup read an uninitialised slot", true) := by
  rw [dedupLoop]
  rfl

end Bump.V
