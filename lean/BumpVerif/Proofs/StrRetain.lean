import BumpVerif.Proofs.StrOps
/-!
# `String::retain`: the compaction loop refines `filter` (closure as an answer function)

The loop is followed on states of one shape (`retainFrom`): the buffer is `kept ++ S ++ rest` where `S` (`del` stale
bytes) is what the deleted characters left behind.  One iteration (`retainFrom_cons`) and one induction
(`retainFrom_append`) give the loop's result for a closure that returns (`retainWith_of_no_panic`) and for one that panics at
a given call, with or without the unwind guard (`retainWith_panic`).
-/
namespace Bump.Str

/-- what `retain` means on a text: keep the characters whose call (numbered from `k`) answers `true` -/
def retainSpec (ans : Nat → Bool) : Nat → List Char → List Char
  | _, [] => []
  | k, c :: l => if ans k then c :: retainSpec ans (k + 1) l else retainSpec ans (k + 1) l

theorem retainSpec_eq_filter (ans : Nat → Bool) (k : Nat) (l : List Char) :
    retainSpec ans k l = ((l.zipIdx k).filter (fun p => ans p.2)).map (·.1) := by
  induction l generalizing k with
  | nil => rfl
  | cons c l ih =>
    simp only [retainSpec, List.zipIdx_cons, List.filter_cons]
    by_cases h : ans k <;> simp [h, ih]

theorem retainLoop_done (guard : Bool) (ans : Nat → Bool) (panicAt : Option Nat) (len fuel : Nat) (st : RetainSt)
    (h : ¬ st.idx < len) :
    retainLoop guard ans panicAt len fuel st
      = .ok ⟨if st.del > 0 then st.buf.take (len - st.del) else st.buf, false, st.calls⟩ := by
  cases fuel <;> simp only [retainLoop, h, if_false]

theorem retainLoop_succ (guard : Bool) (ans : Nat → Bool) (panicAt : Option Nat) (len fuel : Nat) (st : RetainSt) :
    retainLoop guard ans panicAt len (fuel + 1) st =
      if st.idx < len then
        match decodeHead (st.buf.drop st.idx) with
        | none => .bad "retain: text is not UTF-8"
        | some (_, chLen) =>
          if st.idx + chLen > len then .bad "retain: char runs past len" else
          if panicAt = some st.calls then
            .ok ⟨if guard then st.buf.take (st.idx - st.del) else st.buf, true, st.calls + 1⟩
          else if !(ans st.calls) then
            retainLoop guard ans panicAt len fuel { st with del := st.del + chLen, idx := st.idx + chLen, calls := st.calls + 1 }
          else if st.del > 0 then
            retainLoop guard ans panicAt len fuel
              { buf := copyWithin st.buf st.idx (st.idx - st.del) chLen, idx := st.idx + chLen, del := st.del, calls := st.calls + 1 }
          else retainLoop guard ans panicAt len fuel { st with idx := st.idx + chLen, calls := st.calls + 1 }
      else .ok ⟨if st.del > 0 then st.buf.take (len - st.del) else st.buf, false, st.calls⟩ := by
  rw [retainLoop]; rfl

def retainFrom (guard : Bool) (ans : Nat → Bool) (panicAt : Option Nat) (fuel : Nat)
    (kept : List Char) (S : Bytes) (rest : List Char) (k : Nat) : Outcome RetainOut :=
  retainLoop guard ans panicAt (encode kept ++ S ++ encode rest).length fuel
    ⟨encode kept ++ S ++ encode rest, (encode kept).length + S.length, S.length, k⟩

theorem retainWith_eq (guard : Bool) (l : List Char) (ans : Nat → Bool) (panicAt : Option Nat) :
    retainWith guard (encode l) ans panicAt = retainFrom guard ans panicAt ((encode l).length + 1) [] [] l 0 := by
  simp [retainWith, retainFrom]

theorem retainFrom_nil (guard : Bool) (ans : Nat → Bool) (panicAt : Option Nat) (fuel : Nat) (kept : List Char)
    (S : Bytes) (k : Nat) : retainFrom guard ans panicAt fuel kept S [] k = .ok ⟨encode kept, false, k⟩ := by
  rw [retainFrom, retainLoop_done _ _ _ _ _ _ (by simp)]
  simp only [encode_nil, List.append_nil, List.length_append, Nat.add_sub_cancel, List.take_left' rfl]
  by_cases hS : S.length > 0
  · rw [if_pos hS]
  · have : S = [] := List.eq_nil_of_length_eq_zero (by omega)
    subst this; simp

/-- The move for a kept character, which the source skips when there are no stale bytes, would then move it onto itself,
so both cases leave `(S ++ C).drop C.length` stale. -/
theorem retainFrom_cons (guard : Bool) (ans : Nat → Bool) (panicAt : Option Nat) (fuel : Nat) (kept : List Char)
    (S : Bytes) (c : Char) (r : List Char) (k : Nat) :
    retainFrom guard ans panicAt (fuel + 1) kept S (c :: r) k =
      if panicAt = some k then
        .ok ⟨if guard then encode kept else encode kept ++ S ++ encode (c :: r), true, k + 1⟩
      else if ans k then retainFrom guard ans panicAt fuel (kept ++ [c]) ((S ++ encChar c).drop (encChar c).length) r (k + 1)
      else retainFrom guard ans panicAt fuel kept (S ++ encChar c) r (k + 1) := by
  have hpos := encChar_length_pos c
  have hdrop : (encode kept ++ S ++ (encChar c ++ encode r)).drop ((encode kept).length + S.length)
      = encChar c ++ encode r := List.drop_left' (by rw [List.length_append])
  have hS : ((S ++ encChar c).drop (encChar c).length).length = S.length := by simp
  simp only [retainFrom, encode_cons, encode_append, encode_nil, List.append_nil, List.length_append, hS,
    retainLoop_succ, hdrop, decodeHead_enc]
  rw [if_pos (by omega), if_neg (by omega)]
  by_cases hp : panicAt = some k
  · simp only [hp, if_true, Nat.add_sub_cancel]
    rw [List.append_assoc, List.take_left' rfl]
  · simp only [hp, if_false]
    cases ans k
    · simp only [Bool.not_false, if_true, Bool.false_eq_true, if_false, List.append_assoc, Nat.add_assoc]
    · simp only [Bool.not_true, Bool.false_eq_true, if_false, if_true, Nat.add_sub_cancel]
      by_cases h0 : S.length > 0
      · rw [if_pos h0, ← List.append_assoc _ (encChar c), copyWithin_retain]
        simp only [Nat.add_right_comm, Nat.add_assoc, Nat.add_left_comm S.length]
      · have : S = [] := List.eq_nil_of_length_eq_zero (by omega)
        subst this
        simp only [List.length_nil, Nat.lt_irrefl, if_false, List.append_nil, List.nil_append, List.drop_length,
          Nat.add_zero, List.append_assoc, Nat.add_assoc, gt_iff_lt]

def retainStale (ans : Nat → Bool) : Nat → Bytes → List Char → Bytes
  | _, S, [] => S
  | k, S, c :: l =>
    retainStale ans (k + 1) (if ans k then (S ++ encChar c).drop (encChar c).length else S ++ encChar c) l

theorem retainFrom_append (guard : Bool) (ans : Nat → Bool) (panicAt : Option Nat) (fuel : Nat) (l₁ : List Char) :
    ∀ (kept : List Char) (S : Bytes) (l₂ : List Char) (k : Nat),
      (∀ p, panicAt = some p → p < k ∨ k + l₁.length ≤ p) →
      retainFrom guard ans panicAt (fuel + l₁.length) kept S (l₁ ++ l₂) k =
        retainFrom guard ans panicAt fuel (kept ++ retainSpec ans k l₁) (retainStale ans k S l₁) l₂ (k + l₁.length) := by
  induction l₁ with
  | nil => intro kept S l₂ k _; simp [retainSpec, retainStale]
  | cons c r ih =>
    intro kept S l₂ k hp
    have hpk : ¬ panicAt = some k := fun h => by have := hp k h; simp at this; omega
    have hp' : ∀ p, panicAt = some p → p < k + 1 ∨ k + 1 + r.length ≤ p := fun p h => by
      have := hp p h; simp at this; omega
    rw [List.cons_append, List.length_cons, ← Nat.add_assoc, retainFrom_cons, if_neg hpk]
    cases ha : ans k
    · rw [if_neg (by simp), ih _ _ _ _ hp']
      simp [retainSpec, retainStale, ha, Nat.add_assoc, Nat.add_comm 1]
    · rw [if_pos rfl, ih _ _ _ _ hp']
      simp [retainSpec, retainStale, ha, Nat.add_assoc, Nat.add_comm 1]

theorem retain_all_kept (ans : Nat → Bool) (l : List Char) : ∀ k, (∀ j, k ≤ j → j < k + l.length → ans j = true) →
    retainSpec ans k l = l ∧ retainStale ans k [] l = [] := by
  induction l with
  | nil => intro k _; exact ⟨rfl, rfl⟩
  | cons c l ih =>
    intro k h
    have ha := h k (Nat.le_refl k) (by simp)
    obtain ⟨h1, h2⟩ := ih (k + 1) (fun j hj hj' => h j (by omega) (by simp at hj' ⊢; omega))
    simp only [retainSpec, retainStale, ha, if_true, List.nil_append, List.drop_length, h1, h2, and_self]

/-- With or without the unwind guard; a panic index beyond the last call is never reached. -/
theorem retainWith_of_no_panic (guard : Bool) (l : List Char) (ans : Nat → Bool) (panicAt : Option Nat)
    (hp : ∀ p, panicAt = some p → l.length ≤ p) :
    retainWith guard (encode l) ans panicAt = .ok ⟨encode (retainSpec ans 0 l), false, l.length⟩ := by
  obtain ⟨f, hf⟩ := Nat.exists_eq_add_of_le (show l.length ≤ (encode l).length + 1 by have := length_le_encode l; omega)
  have h := retainFrom_append guard ans panicAt f l [] [] [] 0 (fun p h => Or.inr (by have := hp p h; omega))
  rw [retainFrom_nil, List.append_nil, Nat.add_comm f, ← hf] at h
  simpa [retainWith_eq] using h

theorem retain_spec (l : List Char) (ans : Nat → Bool) :
    retain (encode l) ans none = .ok ⟨encode (retainSpec ans 0 l), false, l.length⟩ :=
  retainWith_of_no_panic _ l ans none nofun

/-- **A panic at call `p`**: with the unwind guard the string is cut back to the characters kept so far; without it
(F6) the length is untouched over the partly compacted buffer — kept text, stale bytes, unvisited text. -/
theorem retainWith_panic (guard : Bool) (l : List Char) (ans : Nat → Bool) (p : Nat) (hp : p < l.length) :
    retainWith guard (encode l) ans (some p) =
      .ok ⟨if guard then encode (retainSpec ans 0 (l.take p))
           else encode (retainSpec ans 0 (l.take p)) ++ retainStale ans 0 [] (l.take p) ++ encode (l.drop p),
        true, p + 1⟩ := by
  obtain ⟨c, r, hd⟩ : ∃ c r, l.drop p = c :: r := by
    cases h : l.drop p with
    | nil => rw [List.drop_eq_nil_iff] at h; omega
    | cons c r => exact ⟨c, r, rfl⟩
  have htl : (l.take p).length = p := by rw [List.length_take]; omega
  obtain ⟨f, hf⟩ := Nat.exists_eq_add_of_le (show p + 1 ≤ (encode l).length + 1 by have := length_le_encode l; omega)
  replace hf : (encode l).length + 1 = f + 1 + p := by omega
  have h := retainFrom_append guard ans (some p) (f + 1) (l.take p) [] [] (c :: r) 0
    (fun q h => Or.inr (by cases h; omega))
  rw [retainFrom_cons, if_pos (by rw [htl]; simp), ← hd, List.take_append_drop, htl, ← hf] at h
  simpa [retainWith_eq] using h

theorem retainWith_unguarded_panic_nodel (l : List Char) (ans : Nat → Bool) (p : Nat) (hp : p < l.length)
    (hall : ∀ j, j < p → ans j = true) :
    retainWith false (encode l) ans (some p) = .ok ⟨encode l, true, p + 1⟩ := by
  obtain ⟨h1, h2⟩ := retain_all_kept ans (l.take p) 0
    (fun j _ hj => hall j (by rw [List.length_take] at hj; omega))
  rw [retainWith_panic false l ans p hp, h1, h2, List.append_nil, ← encode_append, List.take_append_drop]
  rfl

end Bump.Str
