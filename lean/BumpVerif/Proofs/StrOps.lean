import BumpVerif.Proofs.StrValid
/-!
# The `String` methods of the model refine `List Char` functions and preserve validity
-/
namespace Bump.Str

theorem copyWithin_len (b : Bytes) (src dst n : Nat) (h1 : src + n ≤ b.length) (h2 : dst ≤ src) :
    (copyWithin b src dst n).length = b.length := by
  rw [copyWithin, List.length_append, List.length_append, List.length_take, List.length_take, List.length_drop,
    List.length_drop, Nat.min_eq_left (by omega), Nat.min_eq_left (by omega)]
  omega

theorem copyWithin_remove (A C B : Bytes) :
    (copyWithin (A ++ C ++ B) (A.length + C.length) A.length ((A ++ C ++ B).length - (A.length + C.length))).take
      ((A ++ C ++ B).length - ((A.length + C.length) - A.length)) = A ++ B := by
  have e1 : (A ++ C ++ B).length - (A.length + C.length) = B.length := by simp; omega
  have e2 : (A ++ C ++ B).length - ((A.length + C.length) - A.length) = (A ++ B).length := by simp; omega
  rw [e1, e2]
  unfold copyWithin
  have t1 : (A ++ C ++ B).take A.length = A := by rw [List.append_assoc]; exact List.take_left' rfl
  have t2 : (A ++ C ++ B).drop (A.length + C.length) = B := List.drop_left' (by simp)
  rw [t1, t2, List.take_length, List.append_assoc]
  rw [← List.append_assoc]
  exact List.take_left' rfl

theorem insertBytes_eq (A B bytes : Bytes) : insertBytes (A ++ B) A.length bytes = A ++ bytes ++ B := by
  unfold insertBytes copyWithin
  simp only []
  have hlen : (A ++ B).length - A.length = B.length := by simp
  rw [hlen]
  generalize hR : List.replicate bytes.length (0 : UInt8) = R
  have hRl : R.length = bytes.length := by rw [← hR]; simp
  have d1 : (A ++ B ++ R).drop A.length = B ++ R := by rw [List.append_assoc]; exact List.drop_left' rfl
  have d2 : (A ++ B ++ R).drop (A.length + bytes.length + B.length) = [] := by
    apply List.drop_of_length_le; simp; omega
  have t1 : (A ++ B ++ R).take (A.length + bytes.length) = A ++ (B ++ R).take bytes.length := by
    rw [List.append_assoc, List.take_append, List.take_of_length_le (by omega)]; simp
  rw [d1, d2, t1, List.take_left' (l₁ := B) (l₂ := R) rfl, List.append_nil]
  generalize hJ : (B ++ R).take bytes.length = J
  have hJl : J.length = bytes.length := by rw [← hJ, List.length_take]; simp; omega
  have t2 : (A ++ J ++ B).take A.length = A := by rw [List.append_assoc]; exact List.take_left' rfl
  have d3 : (A ++ J ++ B).drop (A.length + bytes.length) = B := List.drop_left' (by simp; omega)
  rw [t2, d3]
  apply List.take_of_length_le; simp; omega

/-- the move `retain` makes for a kept character after `S.length` deleted bytes -/
theorem copyWithin_retain (K S C R : Bytes) :
    copyWithin (K ++ S ++ C ++ R) (K.length + S.length) K.length C.length
      = K ++ C ++ (S ++ C).drop C.length ++ R := by
  unfold copyWithin
  have t1 : (K ++ S ++ C ++ R).take K.length = K := by
    rw [List.append_assoc, List.append_assoc]; exact List.take_left' rfl
  have d1 : (K ++ S ++ C ++ R).drop (K.length + S.length) = C ++ R := by
    rw [List.append_assoc]; exact List.drop_left' (by simp)
  have d2 : (K ++ S ++ C ++ R).drop (K.length + C.length) = (S ++ C).drop C.length ++ R := by
    rw [List.append_assoc, List.append_assoc, List.drop_append]
    rw [List.drop_of_length_le (by omega)]
    simp only [List.nil_append, Nat.add_sub_cancel_left]
    rw [← List.append_assoc, List.drop_append_of_le_length (by simp)]
  rw [t1, d1, d2, List.take_left' rfl, List.append_assoc, List.append_assoc, List.append_assoc]

theorem length_le_encode (l : List Char) : l.length ≤ (encode l).length := by
  induction l with
  | nil => simp
  | cons c l ih =>
    have := encChar_length_pos c
    rw [encode_cons, List.length_append, List.length_cons]; omega

theorem push_encode (l : List Char) (c : Char) : push (encode l) c = encode (l ++ [c]) := by
  simp [push, encode_append]

theorem pushStr_encode (l₁ l₂ : List Char) : pushStr (encode l₁) (encode l₂) = encode (l₁ ++ l₂) := by
  simp [pushStr, encode_append]

theorem extendChars_encode (l cs : List Char) : extendChars (encode l) cs = encode (l ++ cs) := by
  induction cs generalizing l with
  | nil => simp [extendChars]
  | cons c cs ih =>
    simp only [extendChars, List.foldl_cons, push_encode] at ih ⊢
    rw [ih]; simp

theorem extendStrs_encode (l : List Char) (ts : List (List Char)) :
    extendStrs (encode l) (ts.map encode) = encode (l ++ ts.flatten) := by
  induction ts generalizing l with
  | nil => simp [extendStrs]
  | cons t ts ih =>
    simp only [extendStrs, List.map_cons, List.foldl_cons, pushStr_encode] at ih ⊢
    rw [ih]; simp

theorem fromIter_encode (cs : List Char) : fromIter cs = encode cs := by
  have := extendChars_encode [] cs
  simpa [extendChars, fromIter] using this

theorem truncate_split (l₁ l₂ : List Char) :
    truncate (encode (l₁ ++ l₂)) (encode l₁).length = .ok (encode l₁) := by
  have hb := boundary_of_split l₁ l₂
  have hle : (encode l₁).length ≤ (encode (l₁ ++ l₂)).length := by simp [encode_append]
  simp only [truncate, hle, if_true, hb]
  rw [encode_append, List.take_left' rfl]

theorem truncate_beyond (s : Bytes) (n : Nat) (h : s.length < n) : truncate s n = .ok s := by
  have : ¬ n ≤ s.length := by omega
  simp [truncate, this]

theorem truncate_panic_iff (s : Bytes) (n : Nat) :
    truncate s n = .panic ↔ n ≤ s.length ∧ isCharBoundary s n = false := by
  unfold truncate
  by_cases h : n ≤ s.length <;> by_cases hb : isCharBoundary s n = true <;> simp [h, hb]

theorem splitOff_split (l₁ l₂ : List Char) :
    splitOff (encode (l₁ ++ l₂)) (encode l₁).length = .ok (encode l₁, encode l₂) := by
  have hb := boundary_of_split l₁ l₂
  have hle : (encode l₁).length ≤ (encode (l₁ ++ l₂)).length := by simp [encode_append]
  simp only [splitOff, hb, if_true, hle]
  rw [encode_append, List.take_left' rfl, List.drop_left' rfl]

theorem splitOff_panic_iff (s : Bytes) (i : Nat) : splitOff s i = .panic ↔ isCharBoundary s i = false := by
  unfold splitOff
  by_cases hb : isCharBoundary s i = true
  · have := isCharBoundary_le hb; simp [hb, this]
  · simp [hb]

theorem insertStr_split (l₁ l₂ : List Char) (t : Bytes) :
    insertStr (encode (l₁ ++ l₂)) (encode l₁).length t = .ok (encode l₁ ++ t ++ encode l₂) := by
  have hb := boundary_of_split l₁ l₂
  simp only [insertStr, hb, if_true]
  rw [encode_append, insertBytes_eq]

theorem insertStr_panic_iff (s : Bytes) (i : Nat) (t : Bytes) :
    insertStr s i t = .panic ↔ isCharBoundary s i = false := by
  unfold insertStr; by_cases hb : isCharBoundary s i = true <;> simp [hb]

theorem insert_split (l₁ l₂ : List Char) (c : Char) :
    insert (encode (l₁ ++ l₂)) (encode l₁).length c = .ok (encode (l₁ ++ c :: l₂)) := by
  have hb := boundary_of_split l₁ l₂
  simp only [insert, hb, if_true]
  rw [encode_append, insertBytes_eq, encode_append, encode_cons, List.append_assoc]

theorem insert_panic_iff (s : Bytes) (i : Nat) (c : Char) :
    insert s i c = .panic ↔ isCharBoundary s i = false := by
  unfold insert; by_cases hb : isCharBoundary s i = true <;> simp [hb]

theorem remove_split (l₁ l₂ : List Char) (c : Char) :
    remove (encode (l₁ ++ c :: l₂)) (encode l₁).length = .ok (encode (l₁ ++ l₂), c) := by
  have hb := boundary_of_split l₁ (c :: l₂)
  have hd : (encode (l₁ ++ c :: l₂)).drop (encode l₁).length = encChar c ++ encode l₂ := by
    rw [encode_append, List.drop_left' rfl, encode_cons]
  simp only [remove, hb, Bool.not_true, Bool.false_eq_true, if_false, hd, decodeHead_enc]
  have hlen : (encode (l₁ ++ c :: l₂)) = encode l₁ ++ encChar c ++ encode l₂ := by
    rw [encode_append, encode_cons, List.append_assoc]
  have hnot : ¬ (encode l₁).length + (encChar c).length > (encode (l₁ ++ c :: l₂)).length := by
    rw [hlen]; simp
  simp only [hnot, if_false]
  rw [hlen, copyWithin_remove, encode_append]

theorem remove_end (l : List Char) : remove (encode l) (encode l).length = .panic := by
  have hb := isCharBoundary_length (encode l)
  simp [remove, hb, decodeHead]

theorem remove_nonboundary (s : Bytes) (i : Nat) (h : isCharBoundary s i = false) : remove s i = .panic := by
  simp [remove, h]

theorem getD_append_right' (A B : Bytes) (k : Nat) : (A ++ B).getD (A.length + k) 0 = B.getD k 0 := by
  rw [List.getD_eq_getElem?_getD, List.getD_eq_getElem?_getD, List.getElem?_append_right (by omega)]
  simp

theorem lastStart_snoc (A : Bytes) (c : Char) : lastStart (A ++ encChar c) = A.length := by
  obtain ⟨b, t, hbt, hb, ht, htl⟩ := enc_shape c
  rw [hbt]
  unfold lastStart
  simp only [List.length_append, List.length_cons]
  match t, ht, htl with
  | [], _, _ =>
    have e : A.length + (0 + 1) - 1 = A.length + 0 := by omega
    simp only [List.length_nil, e, getD_append_right']
    simp [hb]
  | [x], ht, _ =>
    have hx := ht x (by simp)
    have e1 : A.length + (1 + 1) - 1 = A.length + 1 := by omega
    have e2 : A.length + (1 + 1) - 2 = A.length + 0 := by omega
    simp only [List.length_cons, List.length_nil, Nat.zero_add, e1, e2, getD_append_right']
    simp [hb, hx]
  | [x, y], ht, _ =>
    have hx := ht x (by simp)
    have hy := ht y (by simp)
    have e1 : A.length + (1 + 1 + 1) - 1 = A.length + 2 := by omega
    have e2 : A.length + (1 + 1 + 1) - 2 = A.length + 1 := by omega
    have e3 : A.length + (1 + 1 + 1) - 3 = A.length + 0 := by omega
    simp only [List.length_cons, List.length_nil, Nat.zero_add, e1, e2, e3, getD_append_right']
    simp [hb, hx, hy]
  | [x, y, z], ht, _ =>
    have hx := ht x (by simp)
    have hy := ht y (by simp)
    have hz := ht z (by simp)
    have e1 : A.length + (1 + 1 + 1 + 1) - 1 = A.length + 3 := by omega
    have e2 : A.length + (1 + 1 + 1 + 1) - 2 = A.length + 2 := by omega
    have e3 : A.length + (1 + 1 + 1 + 1) - 3 = A.length + 1 := by omega
    simp only [List.length_cons, List.length_nil, Nat.zero_add, e1, e2, e3, getD_append_right']
    simp [hx, hy, hz]
  | _ :: _ :: _ :: _ :: _, _, htl => simp at htl

theorem pop_nil : pop [] = .ok ([], none) := by simp [pop]

theorem pop_snoc (l : List Char) (c : Char) : pop (encode (l ++ [c])) = .ok (encode l, some c) := by
  have he : encode (l ++ [c]) = encode l ++ encChar c := by simp [encode_append]
  have hne : encode l ++ encChar c ≠ [] := by
    intro h
    have h2 := congrArg List.length h
    rw [List.length_append, List.length_nil] at h2
    have := encChar_length_pos c; omega
  rw [he]
  simp only [pop, hne, if_false, lastStart_snoc, List.drop_left' rfl]
  have hd := decodeHead_enc c []
  rw [List.append_nil] at hd
  simp only [hd, List.length_append, if_true]
  simp

theorem pop_encode (l : List Char) : pop (encode l) = .ok (encode l.dropLast, l.getLast?) := by
  rcases List.eq_nil_or_concat l with rfl | ⟨l', c, rfl⟩
  · exact pop_nil
  · rw [List.concat_eq_append, pop_snoc]; simp

theorem remove_valid {s : Bytes} (hv : Valid s) (i : Nat) :
    remove s i = .panic ∨ ∃ s' c, remove s i = .ok (s', c) ∧ Valid s' := by
  rcases boundary_cases hv i with hb | ⟨l₁, l₂, rfl, rfl⟩
  · exact .inl (remove_nonboundary s i hb)
  · cases l₂ with
    | nil => left; simpa using remove_end l₁
    | cons c l₂ => exact .inr ⟨_, _, remove_split l₁ l₂ c, Valid_encode _⟩

end Bump.Str
