import BumpVerif.Proofs.VecExtend
/-!
# `resize` / `extend_with` (vec.rs:1742, 1924-1956) with a `Clone` that may panic
-/
namespace Bump.V
open Bump

/-- the clone loop of `extend_with` inside reserved room -/
theorem extendClones_spec {c : Cfg} (x : Elem) :
    ∀ (k : Nat) (v : VS) (ys : List Elem) (w : W), RepB c v ys → ys.length + k ≤ capOf c v →
      ∃ (j : Nat) (v' : VS) (w' : W) (ok : Bool), extendClones c x k v w = (v', w', ok) ∧
        RepB c v' (ys ++ (clonesFrom c w.nextId (List.replicate k x)).take j) ∧ v'.cap = v.cap ∧ j ≤ k ∧
        w'.evs = w.evs ∧ w'.bad = w.bad ∧ w'.nextId = w.nextId + (if c.freshClone then j else 0) ∧
        (ok = true → j = k) ∧ (CloneOK c → ok = true) := by
  intro k
  induction k with
  | zero =>
    intro v ys w hr _
    exact ⟨0, v, w, true, rfl, by simpa using hr, rfl, Nat.le_refl _, rfl, rfl, by simp, fun _ => rfl, fun _ => rfl⟩
  | succ k ih =>
    intro v ys w hr hroom
    rcases cloneElem_cases c w x with ⟨hfc, hpa, hcl⟩ | ⟨w1, hcl, hev1, hb1, hn1⟩
    · exact ⟨0, v, { w with cloneCalls := w.cloneCalls + 1 }, false, by simp only [extendClones, hcl], by simpa using hr, rfl,
        Nat.zero_le _, rfl, rfl, by simp, by simp, fun hco => by rw [hco hfc] at hpa; cases hpa⟩
    · obtain ⟨v1, hw, hr1, hcap⟩ := hr.write_len (by rw [hr.len]; omega) (cloneOne c w.nextId x) w1
      obtain ⟨j, v', w', ok, hrun, hrep, hcap', hjk, hev, hb, hn, hok, hgood⟩ :=
        ih { v1 with len := v1.len + 1 } _ w1 hr1 (by
          rw [capOf_congr c (v' := { v1 with len := v1.len + 1 }) hcap, List.length_append, List.length_singleton]; omega)
      rw [hn1] at hrep
      refine ⟨j + 1, v', w', ok, by simp only [extendClones, hcl, hw]; exact hrun,
        by rw [List.append_assoc] at hrep; exact hrep, by rw [hcap', ← hcap], by omega,
        by rw [hev, hev1], by rw [hb, hb1], by rw [hn, hn1, nextAfter]; split <;> omega, fun h => by rw [hok h], hgood⟩

/-- after the reservation `extend_with` has two exits: the value is moved in (all clones made, `n > 0`) or dropped -/
theorem extendWith_unfold (c : Cfg) (v : VS) (n : Nat) (x : Elem) (w : W) :
    extendWith c v n x w =
      match rawReserve c v v.len n with
      | none => (v, (dropElem c w x).1, none)
      | some v1 =>
        let r := extendClones c x (n - 1) v1 w
        if r.2.2 = true ∧ n > 0 then
          let p := r.1.write c r.1.len x r.2.1
          ({ p.1 with len := p.1.len + 1 }, p.2, some ())
        else (r.1, (dropElem c r.2.1 x).1, if r.2.2 = true ∧ (dropElem c r.2.1 x).2 = false then some () else none) := by
  unfold extendWith
  cases rawReserve c v v.len n with
  | none => rfl
  | some v1 =>
    simp only
    generalize extendClones c x (n - 1) v1 w = r
    rcases r with ⟨v2, w2, ok⟩
    cases ok
    · simp
    · by_cases hn : n > 0
      · simp [hn]
      · simp [hn]
        cases (dropElem c w2 x).2 <;> rfl

/-- `extend_with(n, value)` (the growing branch of `resize`): `n - 1` clones, then the value itself (`moved`); on a
panic (`Clone`, or the reservation) the value is dropped, as it is for `n = 0` -/
theorem extendWith_spec {c : Cfg} (hc : CfgOK c) (N : Nat) {v : VS} {xs : List Elem} (h : RepB c v xs) (n : Nat) (x : Elem) (w : W) :
    ∃ (j : Nat) (moved : Bool) (v' : VS) (w' : W) (r : Option Unit), extendWith c v n x w = (v', w', r) ∧ j ≤ n - 1 ∧
      RepB c v' (xs ++ (clonesFrom c w.nextId (List.replicate (n - 1) x)).take j ++ (if moved then [x] else [])) ∧
      w'.evs = w.evs ++ (if moved then [] else dropEvs c [x]) ∧ w'.bad = w.bad ∧
      w'.nextId = w.nextId + (if c.freshClone then j else 0) ∧
      (r = some () → j = n - 1 ∧ moved = decide (0 < n)) ∧ (moved = true → r = some ()) ∧
      (CloneOK c → 0 < n ∨ c.dropPanicAt = none → GrowOK c N → xs.length + n ≤ N → r = some ()) := by
  rw [extendWith_unfold]
  cases hr : rawReserve c v v.len n with
  | none =>
    exact ⟨0, false, v, (dropElem c w x).1, none, rfl, Nat.zero_le _, by simpa using h, dropElem_evs c w x, dropElem_bad c w x,
      by simp [dropElem_nextId c w x], by simp, by simp, fun _ _ hg hN => absurd hr (h.reserve_grow hc hg hN)⟩
  | some v1 =>
    obtain ⟨h1, hge, _⟩ := rawReserve_some hc h hr
    rw [h.len] at hge
    obtain ⟨j, v2, w2, ok, hrun, hrep, hcap, hjk, hev, hb, hn, hok, hgood⟩ := extendClones_spec x (n - 1) v1 xs w h1 (by omega)
    simp only [hrun]
    by_cases hm : ok = true ∧ n > 0
    · have hj := hok hm.1
      have hn0 := hm.2
      subst hj
      have hlen : v2.len = xs.length + (n - 1) := by
        rw [hrep.len, clonesFrom_take_all c _ (by simp)]; simp [clonesFrom_length]
      obtain ⟨v3, hw, hr3, _⟩ := hrep.write_len (by rw [hlen, capOf_congr c hcap]; omega) x w2
      rw [if_pos hm]
      simp only [hw]
      exact ⟨n - 1, true, _, w2, some (), rfl, Nat.le_refl _, hr3, by simpa using hev, hb, hn, fun _ => ⟨rfl, by simp [hn0]⟩,
        fun _ => rfl, fun _ _ _ _ => rfl⟩
    · -- the value is dropped: by the unwinding, or because `n = 0`
      rw [if_neg hm]
      refine ⟨j, false, v2, _, _, rfl, hjk, by simpa using hrep, by rw [dropElem_evs, hev]; rfl,
        by rw [dropElem_bad c w2 x, hb], by rw [dropElem_nextId c w2 x, hn], fun hr => ?_, by simp, fun hco hor _ _ => ?_⟩
      · split at hr
        next hs =>
          have hn0 : n = 0 := Nat.eq_zero_of_not_pos fun h0 => hm ⟨hs.1, h0⟩
          exact ⟨hok hs.1, by simp [hn0]⟩
        next => cases hr
      · exact if_pos ⟨hgood hco, dropElem_noPanic c w2 x (hor.resolve_left fun h0 => hm ⟨hgood hco, h0⟩)⟩

theorem resize_grow_spec {c : Cfg} (hc : CfgOK c) {v : VS} {xs : List Elem} (h : RepB c v xs) (n : Nat) (x : Elem) (w : W)
    (hn : xs.length < n) (hco : CloneOK c) (hg : GrowOK c n) :
    ∃ v' w', resize c v n x w = (v', w', some ()) ∧
      RepB c v' (xs ++ clonesFrom c w.nextId (List.replicate (n - xs.length - 1) x) ++ [x]) ∧ w'.evs = w.evs ∧ w'.bad = w.bad := by
  obtain ⟨j, moved, v', w', r, hrun, _, hrep, hev, hb, _, hres, _, hgood⟩ := extendWith_spec hc n h (n - xs.length) x w
  -- `dropPanicAt` is irrelevant on this branch: the value is moved in, not dropped
  have hr := hgood hco (Or.inl (by omega)) hg (by omega)
  subst hr
  obtain ⟨hj, hm⟩ := hres rfl
  have hm' : moved = true := by rw [hm]; simp; omega
  subst hj hm'
  rw [clonesFrom_take_all c _ (by simp)] at hrep
  exact ⟨v', w', by unfold resize; rw [h.len, if_pos hn]; exact hrun, by simpa using hrep, by simpa using hev, hb⟩

theorem resize_shrink_spec {c : Cfg} {v : VS} {xs : List Elem} (h : RepB c v xs) (n : Nat) (x : Elem) (w : W)
    (hn : n ≤ xs.length) (hnp : c.dropPanicAt = none) :
    ∃ v' w', resize c v n x w = (v', w', some ()) ∧ RepB c v' (xs.take n) ∧
      w'.evs = w.evs ++ dropEvs c (xs.drop n).reverse ++ dropEvs c [x] ∧ w'.bad = w.bad := by
  obtain ⟨v', w', hp, hr, hev, hb, _⟩ := truncate_noPanic h n w hnp
  refine ⟨v', (dropElem c w' x).1, ?_, hr, by rw [dropElem_evs, hev], by rw [dropElem_bad c w' x, hb]⟩
  unfold resize
  rw [if_neg (by rw [h.len]; omega)]
  simp only [hp, dropElem_noPanic c w' x hnp]
  rfl

theorem extendWith_own {c : Cfg} {v : VS} {xs : List Elem} {ins held : List Nat} (hc : CfgOK c) (hd : c.needsDrop = true)
    (hf : c.freshClone = true) (h : RepB c v xs) (n : Nat) (x : Elem) (w : W)
    (ho : Own ins xs w.evs (x.id :: held)) (hfr : Fresh ins w.nextId) :
    ∃ ys ins', RepB c (extendWith c v n x w).1 ys ∧ Own ins' ys (extendWith c v n x w).2.1.evs held ∧
      Fresh ins' (extendWith c v n x w).2.1.nextId := by
  obtain ⟨j, moved, v', w', r, hrun, hj, hrep, hev, _, hn, _⟩ := extendWith_spec hc 0 h n x w
  obtain ⟨ins', ho', hfr'⟩ := ho.clones hd hf hfr (List.replicate (n - 1) x) (j := j) (m := 0) (by simpa using hj)
  rw [hrun]
  refine ⟨_, ins', hrep, ?_, by rw [hn, if_pos hf]; exact hfr'⟩
  rw [hev]
  apply ho'.of_count
  intro a
  cases moved <;>
    simp only [ids_append, ids_cons, ids_nil, evDrops_append, evMoved_append, evDrops_dropEvs c hd, evMoved_dropEvs, List.take_zero,
      dropEvs_nil, evDrops_nil, evMoved_nil, List.count_append, List.count_cons, List.count_nil, ↓reduceIte, Bool.false_eq_true] <;>
    omega

theorem resize_own {c : Cfg} {v : VS} {xs : List Elem} {ins held : List Nat} (hc : CfgOK c) (hd : c.needsDrop = true)
    (hf : c.freshClone = true) (h : RepB c v xs) (n : Nat) (x : Elem) (w : W)
    (ho : Own ins xs w.evs (x.id :: held)) (hfr : Fresh ins w.nextId) :
    ∃ ys ins', RepB c (resize c v n x w).1 ys ∧ Own ins' ys (resize c v n x w).2.1.evs held ∧
      Fresh ins' (resize c v n x w).2.1.nextId := by
  unfold resize
  split
  · exact extendWith_own hc hd hf h (n - v.len) x w ho hfr
  · obtain ⟨m, v', w', r, hp, _, _, hr, hev, _, hn, _⟩ := truncate_spec h n w
    obtain ⟨ys, hry, hoy⟩ := truncate_own hd h n w ho
    rw [hp] at hry hoy
    simp only [hp]
    exact ⟨ys, ins, hry, hoy.drop_held hd x, by rw [dropElem_nextId c w' x, hn]; exact hfr⟩

theorem extendClones_zero (c : Cfg) (x : Elem) (v : VS) (w : W) : extendClones c x 0 v w = (v, w, true) := rfl

theorem extendClones_succ (c : Cfg) (x : Elem) (k : Nat) (v : VS) (w : W) :
    extendClones c x (k + 1) v w =
      match (cloneElem c w x).2 with
      | none => (v, (cloneElem c w x).1, false)
      | some e =>
        extendClones c x k { (v.write c v.len e (cloneElem c w x).1).1 with len := v.len + 1 } (v.write c v.len e (cloneElem c w x).1).2 := by
  rw [extendClones]
  rcases cloneElem c w x with ⟨w', _ | e⟩ <;> rfl

theorem extendWith_eq (c : Cfg) (v : VS) (n : Nat) (x : Elem) (w : W) :
    V.extendWith c v n x w =
      match rawReserve c v v.len n with
      | none => (v, (dropElem c w x).1, none)
      | some v1 =>
        match extendClones c x (n - 1) v1 w with
        | (v2, w2, false) => (v2, (dropElem c w2 x).1, none)
        | (v2, w2, true) =>
          if n > 0 then ({ (v2.write c v2.len x w2).1 with len := v2.len + 1 }, (v2.write c v2.len x w2).2, some ())
          else (v2, (dropElem c w2 x).1, if (dropElem c w2 x).2 then none else some ()) := by
  unfold V.extendWith
  cases rawReserve c v v.len n with
  | none => rfl
  | some v1 =>
    dsimp only
    rcases extendClones c x (n - 1) v1 w with ⟨v2, w2, _ | _⟩ <;> rfl

theorem resize_eq (c : Cfg) (v : VS) (n : Nat) (x : Elem) (w : W) :
    V.resize c v n x w =
      if n > v.len then extendWith c v (n - v.len) x w
      else ((V.truncate c v n w).1, (dropElem c (V.truncate c v n w).2.1 x).1,
        if (V.truncate c v n w).2.2.isNone || (dropElem c (V.truncate c v n w).2.1 x).2 then none else some ()) := rfl

theorem extendClones_len (c : Cfg) (x : Elem) : ∀ (k : Nat) (v : VS) (w : W), (extendClones c x k v w).1.len ≤ v.len + k := by
  intro k
  induction k with
  | zero => intro v w; exact Nat.le_refl _
  | succ k ih =>
    intro v w
    unfold extendClones
    rcases cloneElem c w x with ⟨w', _ | e⟩
    · exact Nat.le_add_right _ _
    · exact Nat.le_trans (ih _ _) (Nat.le_of_eq (Nat.add_right_comm v.len 1 k))

end Bump.V
