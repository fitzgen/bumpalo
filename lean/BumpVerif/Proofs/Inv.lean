import BumpVerif.Model.Arena
import BumpVerif.Proofs.Arith
import BumpVerif.Proofs.Fast
/-! The arena well-formedness invariant, and what moving the finger and the fast path do to it. -/
namespace Bump
open Gen

/-- what is assumed of the static empty chunk's address -/
structure EnvOK (E : Nat) : Prop where
  pos : 0 < E
  al : 16 ∣ E
  hi : E + FOOTER_SIZE ≤ 2 ^ 63

def Disj (a an b bn : Nat) : Prop := a + an ≤ b ∨ b + bn ≤ a

def usable (c : Chunk) : Nat := c.size - FOOTER_SIZE
def sumUsable (cs : List Chunk) : Nat := (cs.map usable).sum

structure ChunkWF (M : Nat) (c : Chunk) : Prop where
  size_ge : FOOTER_SIZE ≤ c.size
  data_pos : 0 < c.data
  data_al : 16 ∣ c.data
  usable_al : 16 ∣ c.size - FOOTER_SIZE
  ptr_ge : c.data ≤ c.ptr
  ptr_le : c.ptr ≤ c.footer
  ptr_al : M ∣ c.ptr
  hi : c.data + c.size ≤ 2 ^ 63

structure ArenaWF (E : Nat) (a : Arena) : Prop where
  mpow : IsPow2 a.M
  mle : a.M ≤ 16
  chunks : ∀ c ∈ a.chunks, ChunkWF a.M c
  ab : (a.cur E).ab = sumUsable a.chunks
  disj : a.chunks.Pairwise (fun c d => Disj c.data c.size d.data d.size)
  sdisj : ∀ c ∈ a.chunks, Disj c.data c.size E FOOTER_SIZE
  total : sumSize a.chunks ≤ 2 ^ 63

theorem FS : FOOTER_SIZE = 48 := rfl
theorem CA : CHUNK_ALIGN = 16 := rfl
theorem OV : OVERHEAD = 64 := rfl
theorem PG : TYPICAL_PAGE_SIZE = 4096 := rfl
theorem DF : DEFAULT_CHUNK_SIZE_WITHOUT_FOOTER = 448 := rfl

theorem ArenaWF.m_dvd16 {E a} (h : ArenaWF E a) : a.M ∣ 16 := h.mpow.dvd_of_le isPow2_16 h.mle
theorem ArenaWF.m_pos {E a} (h : ArenaWF E a) : 0 < a.M := h.mpow.pos

theorem footer_al {M c} (h : ChunkWF M c) : 16 ∣ c.footer := by
  unfold Chunk.footer; exact Nat.dvd_add h.data_al h.usable_al

theorem footer_add {M c} (h : ChunkWF M c) : c.footer + FOOTER_SIZE = c.data + c.size := by
  unfold Chunk.footer; have := h.size_ge; omega

theorem ChunkWF.footer_lt {M c} (h : ChunkWF M c) : c.footer < 2 ^ 63 := by
  have := footer_add h; have := h.hi; have := FS; omega

theorem ChunkWF.ptr_lt {M c} (h : ChunkWF M c) : c.ptr < 2 ^ 63 := Nat.lt_of_le_of_lt h.ptr_le h.footer_lt

theorem footer_ne_of_disj {M c d} (hc : ChunkWF M c) (hd : ChunkWF M d) (h : Disj c.data c.size d.data d.size) :
    c.footer ≠ d.footer := by
  have f1 := footer_add hc; have f2 := footer_add hd
  have := hc.ptr_ge; have := hc.ptr_le; have := hd.ptr_ge; have := hd.ptr_le
  have := FS
  unfold Disj at h
  omega

theorem Arena.eq_of {a b : Arena} (hM : a.M = b.M) (hc : a.chunks = b.chunks) (hl : a.limit = b.limit) : a = b := by
  cases a; cases b; cases hM; cases hc; cases hl; rfl

theorem Arena.cur_nil {a : Arena} (E : Nat) (h : a.chunks = []) : a.cur E = emptyChunk E := by
  unfold Arena.cur; rw [h]; rfl

theorem Arena.cur_cons {a : Arena} {c cs} (E : Nat) (h : a.chunks = c :: cs) : a.cur E = c := by
  unfold Arena.cur; rw [h]; rfl

theorem ArenaWF.head {E a c cs} (h : ArenaWF E a) (hc : a.chunks = c :: cs) : ChunkWF a.M c :=
  h.chunks c (by rw [hc]; exact List.mem_cons_self)

theorem cur_ok {E a} (hE : EnvOK E) (h : ArenaWF E a) :
    (a.cur E).data ≤ (a.cur E).ptr ∧ (a.cur E).ptr ≤ (a.cur E).footer ∧ a.M ∣ (a.cur E).ptr ∧
    (a.cur E).ptr < 2 ^ 63 ∧ FOOTER_SIZE ≤ (a.cur E).size ∧ 0 < (a.cur E).data ∧
    (a.cur E).data + (a.cur E).size ≤ 2 ^ 63 := by
  unfold Arena.cur
  cases hc : a.chunks with
  | nil =>
    simp only [List.headD_nil, emptyChunk, Chunk.footer]
    have := hE.pos; have := hE.hi; have := FS
    refine ⟨Nat.le_refl _, by omega, Nat.dvd_trans h.m_dvd16 hE.al, by omega, Nat.le_refl _, by omega, by omega⟩
  | cons c cs =>
    simp only [List.headD_cons]
    have hw := h.head hc
    exact ⟨hw.ptr_ge, hw.ptr_le, hw.ptr_al, hw.ptr_lt, hw.size_ge, hw.data_pos, hw.hi⟩

theorem cur_al {E a} (hE : EnvOK E) (h : ArenaWF E a) : 16 ∣ (a.cur E).data ∧ 16 ∣ (a.cur E).footer := by
  cases hc : a.chunks with
  | nil => rw [Arena.cur_nil E hc]; exact ⟨hE.al, hE.al⟩
  | cons c cs => rw [Arena.cur_cons E hc]; exact ⟨(h.head hc).data_al, footer_al (h.head hc)⟩

structure FastEffect (E : Nat) (a a' : Arena) (p sz al : Nat) : Prop where
  m_eq : a'.M = a.M
  lim_eq : a'.limit = a.limit
  al_dvd : al ∣ p
  m_dvd : a.M ∣ p
  nz : 0 < p
  shape : (a.chunks = [] ∧ a' = a ∧ p = E ∧ sz = 0) ∨
    (∃ c cs, a.chunks = c :: cs ∧ a'.chunks = { c with ptr := p } :: cs ∧ c.data ≤ p ∧ p + sz ≤ c.ptr)

theorem FastEffect.bounds {E a a' p sz al} (eff : FastEffect E a a' p sz al) :
    (a.cur E).data ≤ p ∧ p + sz ≤ (a.cur E).ptr ∧
    ((a.chunks = [] ∧ a' = a ∧ p = E) ∨ ∃ c cs, a.chunks = c :: cs ∧ a'.chunks = { c with ptr := p } :: cs) := by
  rcases eff.shape with ⟨hnil, ha, hp, hsz⟩ | ⟨c, cs, hc, hc', hge, hle⟩
  · rw [Arena.cur_nil E hnil, hp, hsz]
    exact ⟨Nat.le_refl _, Nat.le_refl _, Or.inl ⟨hnil, ha, rfl⟩⟩
  · rw [Arena.cur_cons E hc]
    exact ⟨hge, hle, Or.inr ⟨c, cs, hc, hc'⟩⟩

theorem setPtr_wf {E a c cs p} (h : ArenaWF E a) (hc : a.chunks = c :: cs) (hge : c.data ≤ p) (hle : p ≤ c.footer)
    (hal : a.M ∣ p) : ArenaWF E { a with chunks := { c with ptr := p } :: cs } := by
  obtain ⟨M, chunks, limit⟩ := a
  cases hc
  obtain ⟨hw, hrest⟩ := List.forall_mem_cons.mp h.chunks
  exact ⟨h.mpow, h.mle,
    List.forall_mem_cons.mpr ⟨⟨hw.size_ge, hw.data_pos, hw.data_al, hw.usable_al, hge, hle, hal, hw.hi⟩, hrest⟩, h.ab,
    List.pairwise_cons.mpr (List.pairwise_cons.mp h.disj), List.forall_mem_cons.mpr (List.forall_mem_cons.mp h.sdisj),
    h.total⟩

theorem limit_wf {E a} (v : Option Nat) (h : ArenaWF E a) : ArenaWF E { a with limit := v } :=
  ⟨h.mpow, h.mle, h.chunks, h.ab, h.disj, h.sdisj, h.total⟩

theorem Chunk.ptr_restore {c : Chunk} (p : Nat) (h : c.ptr = c.footer) :
    ({ ({ c with ptr := p } : Chunk) with ptr := c.footer } : Chunk) = c := by
  cases c; exact congrArg (Chunk.mk _ _ _ · _) h.symm

theorem setCurPtr_nil {a : Arena} (E p : Nat) (h : a.chunks = []) : setCurPtr E a p = if p = E then some a else none := by
  unfold setCurPtr; rw [h]

theorem setCurPtr_cons {a : Arena} {c cs} (E p : Nat) (h : a.chunks = c :: cs) :
    setCurPtr E a p = some { a with chunks := { c with ptr := p } :: cs } := by
  unfold setCurPtr; rw [h]

theorem setCurPtr_cases {E a p a'} (h : setCurPtr E a p = some a') :
    (a.chunks = [] ∧ a' = a) ∨ ∃ c cs, a.chunks = c :: cs ∧ a' = { a with chunks := { c with ptr := p } :: cs } := by
  cases hc : a.chunks with
  | nil =>
    rw [setCurPtr_nil E p hc] at h
    split at h
    · exact .inl ⟨rfl, (Option.some.inj h).symm⟩
    · cases h
  | cons c cs => cases (setCurPtr_cons E p hc).symm.trans h; exact .inr ⟨c, cs, rfl, rfl⟩

theorem setCurPtr_cur {E a p a'} (h : setCurPtr E a p = some a') :
    (a'.cur E).ptr = p ∧ footerId a' = footerId a ∧ a'.M = a.M ∧ a'.limit = a.limit := by
  cases hc : a.chunks with
  | nil =>
    rw [setCurPtr_nil E p hc] at h
    split at h
    · rename_i hp
      cases h
      exact ⟨by rw [Arena.cur_nil E hc, hp]; rfl, rfl, rfl, rfl⟩
    · cases h
  | cons c cs =>
    cases (setCurPtr_cons E p hc).symm.trans h
    exact ⟨rfl, by rw [footerId, footerId, hc]; rfl, rfl, rfl⟩

theorem setCurPtr_undo {E a p a'} (h : setCurPtr E a p = some a') : setCurPtr E a' (a.cur E).ptr = some a := by
  cases hc : a.chunks with
  | nil =>
    rw [setCurPtr_nil E p hc] at h
    split at h
    · cases h
      rw [setCurPtr_nil E _ hc, Arena.cur_nil E hc]
      exact if_pos rfl
    · cases h
  | cons c cs =>
    cases (setCurPtr_cons E p hc).symm.trans h
    exact (setCurPtr_cons E _ rfl).trans
      (congrArg some (Arena.eq_of rfl (by rw [Arena.cur_cons E hc]; exact hc.symm) rfl))

theorem storePtr_nil {E} {s : St} (why : String) (h : s.a.chunks = []) : storePtr E s E why = (s, .ok ()) := by
  rw [storePtr, setCurPtr_nil E E h, if_pos rfl]

theorem storePtr_cons {E c cs} {s : St} (p : Nat) (why : String) (h : s.a.chunks = c :: cs) :
    storePtr E s p why = ({ s with a := { s.a with chunks := { c with ptr := p } :: cs } }, .ok ()) := by
  rw [storePtr, setCurPtr_cons E p h]

/-- The static empty chunk has `data = footer = E`, so there `q = E` and nothing is stored. -/
theorem setCurPtr_wf {E a q} (h : ArenaWF E a) (hge : (a.cur E).data ≤ q) (hle : q ≤ (a.cur E).footer)
    (hal : a.M ∣ q) :
    ∃ a', setCurPtr E a q = some a' ∧ ArenaWF E a' ∧ a'.M = a.M ∧ a'.limit = a.limit ∧
      ((a.chunks = [] ∧ a' = a ∧ q = E) ∨ ∃ c cs, a.chunks = c :: cs ∧ a'.chunks = { c with ptr := q } :: cs) := by
  cases hc : a.chunks with
  | nil =>
    rw [Arena.cur_nil E hc] at hge hle
    have hq : q = E := Nat.le_antisymm hle hge
    exact ⟨a, by rw [setCurPtr_nil E q hc, if_pos hq], h, rfl, rfl, Or.inl ⟨rfl, rfl, hq⟩⟩
  | cons c cs =>
    rw [Arena.cur_cons E hc] at hge hle
    exact ⟨_, setCurPtr_cons E q hc, setPtr_wf h hc hge hle hal, rfl, rfl, Or.inr ⟨c, cs, rfl, rfl⟩⟩

theorem tryFast_some {E a sz al a' p} (h : tryFast E a sz al = .ok (some (a', p))) :
    allocFast a.M (a.cur E) sz al = some p ∧ setCurPtr E a p = some a' := by
  unfold tryFast at h
  simp only at h
  split at h
  · cases h
  · split at h
    · cases h
    · split at h
      · cases h
      · rename_i q hq
        split at h
        · cases h
        · split at h
          · cases h
          · rename_i a'' hs
            cases h
            exact ⟨hq, hs⟩

theorem tryFast_cases {E a sz al} (hE : EnvOK E) (h : ArenaWF E a) (hA : IsPow2 al) (hlay : sz + al ≤ 2 ^ 63) :
    (tryFast E a sz al = .ok none ∧ allocFast a.M (a.cur E) sz al = none) ∨
    (∃ a' p, tryFast E a sz al = .ok (some (a', p)) ∧ allocFast a.M (a.cur E) sz al = some p ∧
      ArenaWF E a' ∧ FastEffect E a a' p sz al) := by
  obtain ⟨h1, h2, h3, h4, _, h6, _⟩ := cur_ok hE h
  have hpre : fastPre a.M (a.cur E) = true := by
    simp only [fastPre, Bool.and_eq_true, decide_eq_true_eq]
    exact ⟨⟨h1, h2⟩, Nat.mod_eq_zero_of_dvd h3⟩
  obtain ⟨r, hr⟩ := roundUpTo_isSome (n := sz) (d := al) (by have : USIZE = 2 ^ 64 := rfl; have := hA.pos; omega)
  unfold tryFast
  simp only [hpre, hr, Option.isNone_some, Bool.and_false, Bool.not_true, Bool.false_eq_true, ↓reduceIte]
  cases hf : allocFast a.M (a.cur E) sz al with
  | none => exact Or.inl ⟨rfl, rfl⟩
  | some p =>
    obtain ⟨g1, g2, g3, g4⟩ := allocFast_ok a.M (a.cur E) sz al p h.mpow hA h1 h4 h3 hf
    have hpos : 0 < p := Nat.lt_of_lt_of_le h6 g1
    have hpost : fastPost a.M (a.cur E) al p = true := by
      simp only [fastPost, Bool.and_eq_true, decide_eq_true_eq]
      exact ⟨⟨⟨⟨Nat.mod_eq_zero_of_dvd g3, Nat.mod_eq_zero_of_dvd g4⟩, g1⟩, by omega⟩, Nat.ne_of_gt hpos⟩
    obtain ⟨a', hs, hwf', hm, hl, sh⟩ := setCurPtr_wf h g1 (by omega) g4
    simp only [hpost, hs, Bool.not_true, Bool.false_eq_true, ↓reduceIte]
    refine Or.inr ⟨a', p, rfl, rfl, hwf', hm, hl, g3, g4, hpos, ?_⟩
    rcases sh with ⟨hn, ha, hp⟩ | ⟨c, cs, hc, hc'⟩
    · rw [Arena.cur_nil E hn] at g2
      exact Or.inl ⟨hn, ha, hp, by subst hp; simp only [emptyChunk] at g2; omega⟩
    · rw [Arena.cur_cons E hc] at g1 g2
      exact Or.inr ⟨c, cs, hc, hc', g1, g2⟩

end Bump
