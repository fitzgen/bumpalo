import BumpVerif.Proofs.VecExtend
/-!
# `bumpalo::vec!` (both forms)
-/
namespace Bump.V
open Bump

/-- the clone-and-push loop of `vec![in b; elem; n]` is the push loop over a cloning iterator -/
theorem vmacroPushes_eq (c : Cfg) (x : Elem) :
    ∀ (k : Nat) (v : VS) (w : W),
      vmacroPushes c x k v w = ((extendLoop c (k + 1) v (.cloned (List.replicate k x)) w).1,
        (extendLoop c (k + 1) v (.cloned (List.replicate k x)) w).2.2.1, (extendLoop c (k + 1) v (.cloned (List.replicate k x)) w).2.2.2) := by
  intro k
  induction k with
  | zero => intro v w; rfl
  | succ k ih =>
    intro v w
    simp only [vmacroPushes, extendLoop, It.next, List.replicate_succ]
    cases hcl : cloneElem c w x with
    | mk w1 r =>
      cases r with
      | none => rfl
      | some e =>
        simp only
        cases hp : push c v e w1 with
        | mk v1 r2 =>
          rcases r2 with ⟨w2, r3⟩
          cases r3 with
          | none => rfl
          | some u => exact ih v1 w2

/-- `vec![in b; elem; n]` for `n > 0` once the buffer is there; `m = 1`: the clone of a refused `push`, dropped.
In the second case the unwinding drops the value and the partly built vector. -/
theorem vmacroN_run {c : Cfg} (hc : CfgOK c) (N : Nat) (x : Elem) {n : Nat} (w : W) {v0 : VS} (hw : withCapacity c n = some v0)
    (hr0 : RepB c v0 []) (hn0 : n ≠ 0) :
    ∃ (j m : Nat) (v1 : VS) (w1 : W), RepB c v1 ((clonesFrom c w.nextId (List.replicate (n - 1) x)).take j) ∧ j + m ≤ n - 1 ∧
      w1.evs = w.evs ++ dropEvs c (((clonesFrom c w.nextId (List.replicate (n - 1) x)).drop j).take m) ∧ w1.bad = w.bad ∧
      w1.nextId = w.nextId + (if c.freshClone then j + m else 0) ∧
      ((∃ v2, vmacroN c x n w = (some v2, w1, true) ∧ RepB c v2 (clonesFrom c w.nextId (List.replicate (n - 1) x) ++ [x]) ∧
          j = n - 1 ∧ m = 0) ∨
        (vmacroN c x n w = (none, (dropVec c v1 (dropElem c w1 x).1).1, true) ∧ ¬ (CloneOK c ∧ GrowOK c N ∧ n ≤ N))) := by
  obtain ⟨j, m, v1, r', w1, ok, hrun, hrep, hjm, hev, hb, hn, hok, hgood⟩ :=
    extendLoop_cloned_spec hc N (n - 1 + 1) v0 (List.replicate (n - 1) x) w [] hr0 (by simp)
  simp only [List.nil_append, List.length_replicate] at hrep hjm hok hgood
  refine ⟨j, m, v1, w1, hrep, hjm, hev, hb, hn, ?_⟩
  unfold vmacroN
  rw [hw]
  simp only [hn0, ↓reduceIte]
  rw [vmacroPushes_eq c x (n - 1) v0 w, hrun]
  cases ok with
  | false => exact Or.inr ⟨rfl, fun ⟨hco, hg, hN⟩ => by have := hgood hco hg (by simp; omega); cases this⟩
  | true =>
    obtain ⟨hj, hm⟩ := hok rfl
    have hrep' := hrep
    rw [hj, clonesFrom_take_all c _ (by simp)] at hrep'
    simp only
    rcases push_spec hc hrep' x w1 with ⟨v2, hpush, hr2⟩ | ⟨hpush, _, hres⟩
    · rw [hpush]; exact Or.inl ⟨v2, rfl, hr2, hj, hm⟩
    · rw [hpush]
      refine Or.inr ⟨rfl, fun ⟨_, hg, hN⟩ => hrep'.reserve_grow hc hg ?_ hres⟩
      simp [clonesFrom_length]; omega

/-- `vec![in b; elem; n]`: `n - 1` clones followed by the value itself; for `n = 0` the element expression is not
evaluated -/
theorem vmacroN_spec {c : Cfg} (hc : CfgOK c) (x : Elem) (n : Nat) (w : W) (hco : CloneOK c) (hg : GrowOK c n)
    (hwc : withCapacity c n ≠ none) :
    ∃ v' w', vmacroN c x n w = (some v', w', decide (n > 0)) ∧ w'.evs = w.evs ∧ w'.bad = w.bad ∧
      RepB c v' (if n = 0 then [] else clonesFrom c w.nextId (List.replicate (n - 1) x) ++ [x]) := by
  have hnU : n < USIZE := by have := hg.2.2; simp only [USIZE_MAX, USIZE] at *; omega
  cases hw : withCapacity c n with
  | none => exact absurd hw hwc
  | some v0 =>
    have hr0 := (withCapacity_some hc hnU hw).1
    by_cases hn0 : n = 0
    · subst hn0
      exact ⟨v0, w, by simp [vmacroN, hw], rfl, rfl, hr0⟩
    · obtain ⟨j, m, v1, w1, _, _, hev, hb, _, ⟨v2, hrun, hr2, _, hm⟩ | ⟨_, hbad⟩⟩ := vmacroN_run hc n x w hw hr0 hn0
      · subst hm
        exact ⟨v2, w1, by rw [hrun]; simp; omega, by simpa [dropEvs_nil] using hev, hb, by simpa [hn0] using hr2⟩
      · exact absurd ⟨hco, hg, Nat.le_refl n⟩ hbad

/-- `elem` is moved in last, dropped by the unwinding, or — for `n = 0` — never evaluated (`n` is a `usize`) -/
theorem vmacroN_own {c : Cfg} {ins held : List Nat} (hc : CfgOK c) (hd : c.needsDrop = true) (hf : c.freshClone = true)
    (x : Elem) (n : Nat) (hnU : n < USIZE) (w : W) (ho : Own ins [] w.evs (x.id :: held)) (hfr : Fresh ins w.nextId) :
    ∃ ys ins', (∀ v', (vmacroN c x n w).1 = some v' → RepB c v' ys) ∧ ((vmacroN c x n w).1 = none → ys = []) ∧
      Own ins' ys (vmacroN c x n w).2.1.evs (if (vmacroN c x n w).2.2 then held else x.id :: held) ∧
      Fresh ins' (vmacroN c x n w).2.1.nextId := by
  cases hw : withCapacity c n with
  | none => exact ⟨[], ins, by simp [vmacroN, hw], fun _ => rfl, by simpa [vmacroN, hw] using ho, by simpa [vmacroN, hw] using hfr⟩
  | some v0 =>
    have hr0 := (withCapacity_some hc hnU hw).1
    by_cases hn0 : n = 0
    · subst hn0
      have hrun : vmacroN c x 0 w = (some v0, w, false) := by simp [vmacroN, hw]
      rw [hrun]
      exact ⟨[], ins, fun v' hv' => by cases hv'; exact hr0, by simp, by simpa using ho, hfr⟩
    · obtain ⟨j, m, v1, w1, hr1, hjm, hev, _, hn, hcases⟩ := vmacroN_run hc 0 x w hw hr0 hn0
      obtain ⟨ins', ho', hfr'⟩ := ho.clones hd hf hfr (List.replicate (n - 1) x) (by simpa using hjm)
      rw [← hev, List.nil_append] at ho'
      rw [if_pos hf] at hn
      rw [← hn] at hfr'
      rcases hcases with ⟨v2, hrun, hr2, hj, _⟩ | ⟨hrun, _⟩
      · rw [hrun]
        subst hj
        rw [clonesFrom_take_all c _ (by simp)] at ho'
        exact ⟨_, ins', fun v' hv' => by cases hv'; exact hr2, by simp, ho'.push_held x, hfr'⟩
      · rw [hrun]
        refine ⟨[], ins', by simp, fun _ => rfl, dropVec_own hd hr1 _ (ho'.drop_held hd x), ?_⟩
        simp only [dropVec, dropAll_nextId]; rw [dropElem_nextId c w1 x]; exact hfr'

/-- the pushes of `vec![in b; a, b, c]` -/
theorem vmacroList_spec {c : Cfg} (hc : CfgOK c) :
    ∀ (es : List Elem) (v : VS) (ys : List Elem) (w : W), RepB c v ys →
      (∃ v', vmacroList c es v w = (v', w, none) ∧ RepB c v' (ys ++ es)) ∨
      (∃ pre e rest v', es = pre ++ e :: rest ∧ vmacroList c es v w = (v', (dropElem c w e).1, some rest) ∧
        RepB c v' (ys ++ pre) ∧ rawReserve c v' v'.len 1 = none) := by
  intro es
  induction es with
  | nil => intro v ys w hr; exact .inl ⟨v, rfl, by simpa using hr⟩
  | cons e es ih =>
    intro v ys w hr
    rcases push_spec hc hr e w with ⟨v1, hpush, hr1⟩ | ⟨hpush, _, hres⟩
    · simp only [vmacroList, hpush]
      rcases ih v1 (ys ++ [e]) w hr1 with ⟨v', hrun, hrep⟩ | ⟨pre, e', rest, v', hes, hrun, hrep, hres⟩
      · exact .inl ⟨v', hrun, by simpa using hrep⟩
      · exact .inr ⟨e :: pre, e', rest, v', by rw [hes]; rfl, hrun, by simpa using hrep, hres⟩
    · exact .inr ⟨[], e, es, v, rfl, by simp only [vmacroList, hpush], by simpa using hr, hres⟩

theorem vmacroListOp_spec {c : Cfg} (hc : CfgOK c) (es : List Elem) (w : W) (hg : GrowOK c es.length) :
    ∃ v', vmacroListOp c es w = (some v', w, []) ∧ RepB c v' es := by
  unfold vmacroListOp
  rcases vmacroList_spec hc es newVec [] w (newVec_rep c) with ⟨v', hrun, hrep⟩ | ⟨pre, e, rest, v', hes, _, hrep, hres⟩
  · rw [hrun]
    exact ⟨v', rfl, hrep⟩
  · subst hes
    exact absurd hres (hrep.reserve_grow hc hg (by simp))

/-- the values of the expressions that were never evaluated are still the caller's -/
theorem vmacroListOp_own {c : Cfg} {ins held : List Nat} (hc : CfgOK c) (hd : c.needsDrop = true) (es : List Elem) (w : W)
    (ho : Own ins [] w.evs (ids es ++ held)) :
    ∃ ys, (∀ v', (vmacroListOp c es w).1 = some v' → RepB c v' ys) ∧ ((vmacroListOp c es w).1 = none → ys = []) ∧
      Own ins ys (vmacroListOp c es w).2.1.evs (ids (vmacroListOp c es w).2.2 ++ held) := by
  unfold vmacroListOp
  rcases vmacroList_spec hc es newVec [] w (newVec_rep c) with ⟨v', hrun, hrep⟩ | ⟨pre, e, rest, v', hes, hrun, hrep, _⟩
  · rw [hrun]
    exact ⟨es, fun v'' hv => by cases hv; exact hrep, by simp, ho.exchange es es [] [] [] (by simp) (by simp) (by simp)⟩
  · rw [hrun]
    refine ⟨[], by simp, fun _ => rfl, ?_⟩
    simp only
    rw [dropVec_evs hrep, dropElem_evs]
    subst hes
    exact ho.exchange _ [] (e :: pre) [] rest (by simp) (by simp [evDrops_dropEvs c hd]) (by simp [evMoved_dropEvs])

end Bump.V
