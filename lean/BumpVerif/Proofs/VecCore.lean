import BumpVerif.Proofs.VecRaw
/-!
# Core Vec methods refine their `List` specification

The slot steps (`ptr::copy`, `ptr::write`, the loop of `truncate`) are stated on buffers given in pieces; the methods on
the normal form of a represented vector, `⟨xs.map some ++ rest, xs.length, cap⟩`.
-/
namespace Bump.V
open Bump

theorem Rep.nf {c : Cfg} {s : List (Option Elem)} {l cp : Nat} {xs : List Elem} (h : Rep c ⟨s, l, cp⟩ xs) :
    ∃ rest, s = xs.map some ++ rest ∧ l = xs.length := by
  obtain ⟨rest, hs⟩ := h.slots
  exact ⟨rest, hs, h.len⟩

theorem need_ok (c : Cfg) (v : VS) (n : Nat) (w : W) (what : String) (h : n ≤ v.slots.length) :
    v.need c n w what = (v, w) := by
  simp [VS.need, padTo_of_le h, h]

/-- `ptr::copy` inside the buffer -/
theorem copy_ok (c : Cfg) (v : VS) (src dst n : Nat) (w : W) (h : max src dst + n ≤ v.slots.length) :
    v.copy c src dst n w = ({ v with slots := copySlots v.slots src dst n }, w) := by
  by_cases hn : n = 0
  · simp [VS.copy, hn, copySlots]
  · simp only [VS.copy, hn, ↓reduceIte, need_ok c v _ w _ h]

/-- memmove of the block `U` down over the block `H`: stale copies `T` stay behind -/
theorem copy_block_down (K H U R : List (Option Elem)) :
    ∃ T, T.length = H.length ∧
      copySlots (K ++ (H ++ (U ++ R))) (K.length + H.length) K.length U.length = K ++ (U ++ (T ++ R)) := by
  refine ⟨(H ++ U).drop U.length, by simp, ?_⟩
  have h1 : K ++ (H ++ (U ++ R)) = (K ++ H) ++ (U ++ R) := by simp
  have h2 : K.length + H.length = (K ++ H).length := by simp
  have e1 : (K ++ (H ++ (U ++ R))).take K.length = K := List.take_left
  have e2 : (K ++ (H ++ (U ++ R))).drop (K.length + H.length) = U ++ R := by rw [h1, h2, List.drop_left]
  have e3 : (K ++ (H ++ (U ++ R))).drop (K.length + U.length) = (H ++ U).drop U.length ++ R := by
    rw [List.drop_length_add_append, show H ++ (U ++ R) = (H ++ U) ++ R by simp, List.drop_append_of_le_length (by simp)]
  simp only [copySlots, e1, e2, e3, List.take_left]

theorem copy_up (c : Cfg) (K U R : List (Option Elem)) (l cp x : Nat) (w : W) (hU : U ≠ []) (hroom : c.esz ≠ 0 → x ≤ R.length) :
    ∃ G R', (VS.mk (K ++ (U ++ R)) l cp).copy c K.length (K.length + x) U.length w = (⟨K ++ (G ++ (U ++ R')), l, cp⟩, w) ∧
      G.length = x ∧ (x ≤ R.length → R'.length + x = R.length) := by
  have hn0 : U.length ≠ 0 := by have := List.length_pos_iff.mpr hU; omega
  refine ⟨(U ++ padTo x R).take x, R.drop x, ?_, ?_, ?_⟩
  · have hmax : max K.length (K.length + x) + U.length = K.length + x + U.length := by
      rw [Nat.max_eq_right (Nat.le_add_right _ _)]
    have hpad : padTo (K.length + x + U.length) (K ++ (U ++ R)) = K ++ (U ++ padTo x R) := by
      rw [Nat.add_assoc, padTo_prefix, Nat.add_sub_cancel_left, padTo_prefix, Nat.add_sub_cancel]
    have hw : (if K.length + x + U.length ≤ (K ++ (U ++ R)).length ∨ c.esz = 0 then w else w.flag "copy outside the buffer") = w := by
      by_cases he : c.esz = 0
      · simp [he]
      · have := hroom he
        have : K.length + x + U.length ≤ (K ++ (U ++ R)).length := by simp only [List.length_append]; omega
        rw [if_pos (Or.inl this)]
    simp only [VS.copy, hn0, ↓reduceIte, VS.need, hmax, hpad, hw]
    have hxl : x ≤ (padTo x R).length := by rw [length_padTo]; exact Nat.le_max_left _ _
    have e1 : (K ++ (U ++ padTo x R)).take (K.length + x) = K ++ (U ++ padTo x R).take x := by
      rw [List.take_append, List.take_of_length_le (by omega), Nat.add_sub_cancel_left]
    have e2 : ((K ++ (U ++ padTo x R)).drop K.length).take U.length = U := by
      rw [List.drop_left]; exact List.take_left
    have e3 : (K ++ (U ++ padTo x R)).drop (K.length + x + U.length) = R.drop x := by
      rw [Nat.add_assoc, List.drop_length_add_append, Nat.add_comm x, List.drop_length_add_append, drop_padTo]
    simp only [copySlots, e1, e2, e3, List.append_assoc]
  · simp [length_padTo]; omega
  · intro hx; rw [List.length_drop]; omega

theorem write_at (c : Cfg) (A T : List (Option Elem)) (h : Option Elem) (l cp : Nat) (e : Elem) (w : W) :
    (VS.mk (A ++ h :: T) l cp).write c A.length e w = (VS.mk (A ++ some e :: T) l cp, w) := by
  have hle : A.length + 1 ≤ (A ++ h :: T).length := by simp
  simp only [VS.write, need_ok c (VS.mk (A ++ h :: T) l cp) (A.length + 1) w _ hle]
  simp

/-- `ptr::write` to the first slot after a prefix `pre` that leaves room for it (zero-sized elements need none:
the slot list grows) -/
theorem write_room (c : Cfg) (pre rest : List (Option Elem)) (l cp : Nat) (e : Elem) (w : W)
    (hroom : c.esz ≠ 0 → rest ≠ []) :
    (VS.mk (pre ++ rest) l cp).write c pre.length e w = (⟨pre ++ some e :: rest.tail, l, cp⟩, w) := by
  cases rest with
  | nil =>
    have he : c.esz = 0 := Classical.byContradiction fun h => hroom h rfl
    simp [VS.write, VS.need, padTo, he]
  | cons r rs => exact write_at c pre rs r l cp e w

theorem write_in (c : Cfg) (xs : List Elem) (rest : List (Option Elem)) (len cap i : Nat) (e : Elem) (w : W)
    (hi : i < xs.length) :
    (VS.mk (xs.map some ++ rest) len cap).write c i e w = (VS.mk ((xs.set i e).map some ++ rest) len cap, w) := by
  have hle : i + 1 ≤ (xs.map some ++ rest).length := by simp; omega
  simp only [VS.write, need_ok c (VS.mk (xs.map some ++ rest) len cap) (i + 1) w _ hle]
  simp [hi, List.map_set]

/-- the `drop` events of a list of elements (none for plain data) -/
def dropEvs (c : Cfg) (es : List Elem) : List Ev := if c.needsDrop then es.map (fun e => Ev.drop e.id) else []

theorem dropEvs_nil (c : Cfg) : dropEvs c [] = [] := by simp [dropEvs]

theorem dropEvs_append (c : Cfg) (a b : List Elem) : dropEvs c (a ++ b) = dropEvs c a ++ dropEvs c b := by
  unfold dropEvs; split <;> simp

theorem dropElem_evs (c : Cfg) (w : W) (e : Elem) : (dropElem c w e).1.evs = w.evs ++ dropEvs c [e] := by
  unfold dropElem dropEvs; split <;> simp

theorem slot_of_read {v : VS} {i : Nat} {e : Elem} (hr : v.read i = some e) : v.slots[i]? = some (some e) := by
  unfold VS.read at hr
  cases h : v.slots[i]? with
  | none => rw [h] at hr; cases hr
  | some x => rw [h] at hr; exact congrArg some hr

theorem copySlots_one (s : List (Option Elem)) (i j : Nat) (x : Option Elem) (hi : s[i]? = some x) (hj : j < i) :
    copySlots s i j 1 = s.set j x := by
  have hil : i < s.length := (List.getElem?_eq_some_iff.mp hi).1
  have hx : s[i] = x := (List.getElem?_eq_some_iff.mp hi).2
  have hd : s.drop i = x :: s.drop (i + 1) := by
    rw [← hx]; exact (List.getElem_cons_drop hil).symm
  unfold copySlots
  rw [hd, List.set_eq_take_append_cons_drop]
  have : j < s.length := by omega
  simp [this]

/-- moving one initialised slot down is writing its value there -/
theorem copy_one_eq_write (c : Cfg) (v : VS) (i j : Nat) (e : Elem) (w : W) (hr : v.read i = some e) (hj : j < i) :
    v.copy c i j 1 w = v.write c j e w := by
  have hi : i < v.slots.length := (List.getElem?_eq_some_iff.mp (slot_of_read hr)).1
  unfold VS.write
  rw [copy_ok c v i j 1 w (by omega), need_ok c v _ w _ (by omega), copySlots_one v.slots i j (some e) (slot_of_read hr) hj]

theorem write_bad_le (c : Cfg) (v : VS) (i : Nat) (e : Elem) (w : W) : w.bad.length ≤ (v.write c i e w).2.bad.length := by
  unfold VS.write VS.need
  dsimp only
  split
  · exact Nat.le_refl _
  · exact Nat.le_of_lt (w.lt_flag _)

theorem dropElem_bad (c : Cfg) (w : W) (e : Elem) : (dropElem c w e).1.bad = w.bad := by
  unfold dropElem; split <;> simp

theorem dropElem_nextId (c : Cfg) (w : W) (e : Elem) : (dropElem c w e).1.nextId = w.nextId := by
  unfold dropElem; split <;> simp

theorem dropElem_noPanic (c : Cfg) (w : W) (e : Elem) (h : c.dropPanicAt = none) : (dropElem c w e).2 = false := by
  unfold dropElem; split <;> simp [h]

theorem RepB.room {c : Cfg} {xs : List Elem} {rest : List (Option Elem)} {cap : Nat}
    (h : RepB c ⟨xs.map some ++ rest, xs.length, cap⟩ xs) (hlt : xs.length < capOf c ⟨xs.map some ++ rest, xs.length, cap⟩) :
    c.esz ≠ 0 → rest ≠ [] := by
  intro he hr
  have hb := h.buf he
  subst hr
  simp [capOf, he] at hlt hb
  omega

theorem RepB.of_nf {c : Cfg} {ys : List Elem} {rest : List (Option Elem)} {cap : Nat}
    (hbuf : c.esz ≠ 0 → (ys.map some ++ rest).length = cap) (hcap : cap < USIZE) (hhalf : c.esz ≠ 0 → cap * 2 < USIZE)
    (hz : c.esz = 0 → ys.length ≤ USIZE_MAX) : RepB c ⟨ys.map some ++ rest, ys.length, cap⟩ ys := by
  refine ⟨⟨⟨rest, rfl⟩, rfl, hbuf, ?_⟩, hcap, hhalf⟩
  by_cases he : c.esz = 0
  · simp [capOf, he]; exact hz he
  · have := hbuf he; simp [capOf, he]; simp at this; omega

/-- `ptr::write(end, e); len += 1` with spare capacity -/
theorem RepB.write_len {c : Cfg} {v : VS} {xs : List Elem} (h : RepB c v xs) (hroom : v.len < capOf c v) (e : Elem) (w : W) :
    ∃ v', v.write c v.len e w = (v', w) ∧ RepB c { v' with len := v'.len + 1 } (xs ++ [e]) ∧ v'.cap = v.cap := by
  rcases v with ⟨s, l, cp⟩
  obtain ⟨rest, rfl, rfl⟩ := h.toRep.nf
  have hr := h.room hroom
  have hw := write_room c (xs.map some) rest xs.length cp e w hr
  rw [List.length_map] at hw
  refine ⟨_, hw, ?_, rfl⟩
  have := RepB.of_nf (c := c) (ys := xs ++ [e]) (rest := rest.tail) (cap := cp)
    (fun he => by
      have hb := h.buf he
      have := List.length_pos_iff.mpr (hr he)
      simp at hb ⊢; omega) h.capLt h.capHalf
    (fun he => by simp [capOf, he] at hroom; simp; omega)
  simpa using this

theorem RepB.grow_one {c : Cfg} {v : VS} {xs : List Elem} (hc : CfgOK c) (h : RepB c v xs) :
    (∃ v1, (if v.len = capOf c v then rawReserve c v v.len 1 else some v) = some v1 ∧ RepB c v1 xs ∧ v1.len < capOf c v1) ∨
    ((if v.len = capOf c v then rawReserve c v v.len 1 else some v) = none ∧ v.len = capOf c v ∧
      rawReserve c v v.len 1 = none) := by
  by_cases hfull : v.len = capOf c v
  · rw [if_pos hfull]
    cases hr : rawReserve c v v.len 1 with
    | none => exact Or.inr ⟨rfl, hfull, rfl⟩
    | some v1 =>
      obtain ⟨h1, hge, _⟩ := rawReserve_some hc h hr
      exact Or.inl ⟨v1, rfl, h1, by have := h1.len; have := h.len; omega⟩
  · rw [if_neg hfull]
    exact Or.inl ⟨v, rfl, h, by have := h.lenCap; omega⟩

theorem push_unfold (c : Cfg) (v : VS) (e : Elem) (w : W) :
    push c v e w =
      match (if v.len = capOf c v then rawReserve c v v.len 1 else some v) with
      | none => (v, (dropElem c w e).1, none)
      | some v1 =>
        let p := v1.write c v1.len e w
        ({ p.1 with len := p.1.len + 1 }, p.2, some ()) := by
  unfold push
  by_cases hfull : v.len = capOf c v
  · rw [if_pos hfull, if_pos hfull]
    cases rawReserve c v v.len 1 with
    | none => rfl
    | some v1 => rfl
  · rw [if_neg hfull, if_neg hfull]

theorem push_spec {c : Cfg} {v : VS} {xs : List Elem} (hc : CfgOK c) (h : RepB c v xs) (e : Elem) (w : W) :
    (∃ v', push c v e w = (v', w, some ()) ∧ RepB c v' (xs ++ [e])) ∨
    (push c v e w = (v, (dropElem c w e).1, none) ∧ v.len = capOf c v ∧ rawReserve c v v.len 1 = none) := by
  rw [push_unfold]
  rcases h.grow_one hc with ⟨v1, hg, h1, hlt⟩ | ⟨hg, hfull, hr⟩
  · obtain ⟨v', hw, hrep, _⟩ := h1.write_len hlt e w
    exact Or.inl ⟨_, by rw [hg]; simp only [hw], hrep⟩
  · exact Or.inr ⟨by rw [hg], hfull, hr⟩

theorem RepB.reslot {c : Cfg} {v : VS} {xs ys : List Elem} {rest' : List (Option Elem)} (h : RepB c v xs)
    (hl : (ys.map some ++ rest').length = v.slots.length) (hle : ys.length ≤ xs.length) :
    RepB c ⟨ys.map some ++ rest', ys.length, v.cap⟩ ys := by
  apply RepB.of_nf (fun he => by rw [hl]; exact h.buf he) h.capLt h.capHalf
  intro he
  have h1 := h.lenCap; have := h.len; simp [capOf, he] at h1; omega

theorem RepB.setLen {c : Cfg} {v : VS} {xs : List Elem} (h : RepB c v xs) {m : Nat} (hm : m ≤ xs.length) :
    RepB c { v with len := m } (xs.take m) := by
  obtain ⟨rest, hs⟩ := h.slots
  refine ⟨⟨⟨(xs.drop m).map some ++ rest, ?_⟩, (List.length_take_of_le hm).symm, h.buf, ?_⟩, h.capLt, h.capHalf⟩
  · show v.slots = _
    rw [hs, ← List.append_assoc, ← List.map_append, List.take_append_drop]
  · show m ≤ capOf c v
    exact Nat.le_trans hm (h.len ▸ h.lenCap)

theorem RepB.shrink {c : Cfg} {xs ys : List Elem} {rest rest' : List (Option Elem)} {cap : Nat}
    (h : RepB c ⟨xs.map some ++ rest, xs.length, cap⟩ xs)
    (hl : (ys.map some ++ rest').length = (xs.map some ++ rest).length) (hle : ys.length ≤ xs.length) :
    RepB c ⟨ys.map some ++ rest', ys.length, cap⟩ ys := h.reslot hl hle

theorem pop_spec {c : Cfg} {v : VS} {xs : List Elem} (h : RepB c v xs) (w : W) :
    (xs = [] ∧ pop v w = (v, w, none)) ∨
    (∃ (hne : xs ≠ []) (v' : VS), pop v w = (v', w.moved (xs.getLast hne), some (xs.getLast hne)) ∧ RepB c v' xs.dropLast) := by
  rcases v with ⟨s, l, cp⟩
  obtain ⟨rest, rfl, rfl⟩ := h.toRep.nf
  by_cases hne : xs = []
  · left; subst hne; simp [pop]
  · right
    refine ⟨hne, ⟨xs.map some ++ rest, xs.length - 1, cp⟩, ?_, ?_⟩
    · have hpos : xs.length ≠ 0 := by simpa using hne
      have hlt : xs.length - 1 < xs.length := by omega
      have hr := read_map_some xs rest (xs.length - 1) hlt (xs.length - 1) cp
      simp only [pop, hpos, ↓reduceIte, hr]
      simp [List.getLast_eq_getElem]
    · rw [List.dropLast_eq_take]
      exact h.setLen (Nat.sub_le _ _)

/-- the slot steps of `insert` once there is room -/
theorem insert_steps (c : Cfg) (A B : List Elem) (rest : List (Option Elem)) (l cp : Nat) (e : Elem) (w : W)
    (hroom : c.esz ≠ 0 → rest ≠ []) :
    ∃ rs, (rest ≠ [] → rs.length + 1 = rest.length) ∧
      (let p := (VS.mk ((A ++ B).map some ++ rest) l cp).copy c A.length (A.length + 1) B.length w
       p.1.write c A.length e p.2) = (⟨(A ++ e :: B).map some ++ rs, l, cp⟩, w) := by
  by_cases hB : B.length = 0
  · -- inserting at the end: nothing to shift
    have : B = [] := List.length_eq_zero_iff.mp hB
    subst this
    refine ⟨rest.tail, fun hne => ?_, ?_⟩
    · rw [List.length_tail]
      exact Nat.sub_add_cancel (List.length_pos_iff.mpr hne)
    · simpa [VS.copy] using write_room c (A.map some) rest l cp e w hroom
  · obtain ⟨G, rs, hcp, hG, hrs⟩ := copy_up c (A.map some) (B.map some) rest l cp 1 w (by simpa using hB)
      (fun he => List.length_pos_iff.mpr (hroom he))
    obtain ⟨h, rfl⟩ := List.length_eq_one_iff.mp hG
    refine ⟨rs, fun hne => hrs (List.length_pos_iff.mpr hne), ?_⟩
    simp only [List.length_map] at hcp
    simp only [List.map_append, List.append_assoc, hcp]
    have := write_at c (A.map some) (B.map some ++ rs) h l cp e w
    simpa using this

/-- `insert` with the pair matches written as projections -/
theorem insert_unfold (c : Cfg) (v : VS) (i : Nat) (e : Elem) (w : W) :
    insert c v i e w =
      if i > v.len then (v, (dropElem c w e).1, none)
      else match (if v.len = capOf c v then rawReserve c v v.len 1 else some v) with
        | none => (v, (dropElem c w e).1, none)
        | some v1 =>
          let p := v1.copy c i (i + 1) (v.len - i) w
          let q := p.1.write c i e p.2
          ({ q.1 with len := v.len + 1 }, q.2, some ()) := by
  unfold insert; rfl

theorem RepB.insert_len {c : Cfg} {v : VS} {xs : List Elem} (h : RepB c v xs) (hroom : v.len < capOf c v) (i : Nat)
    (hi : i ≤ xs.length) (e : Elem) (w : W) :
    ∃ v', (let p := v.copy c i (i + 1) (xs.length - i) w
           p.1.write c i e p.2) = (v', w) ∧ RepB c { v' with len := xs.length + 1 } (xs.take i ++ e :: xs.drop i) := by
  rcases v with ⟨s, l, cp⟩
  obtain ⟨rest, rfl, rfl⟩ := h.toRep.nf
  have hr := h.room hroom
  obtain ⟨rs, hl, hst⟩ := insert_steps c (xs.take i) (xs.drop i) rest xs.length cp e w hr
  rw [List.take_append_drop, List.length_take_of_le hi, List.length_drop] at hst
  have hlen' : (xs.take i ++ e :: xs.drop i).length = xs.length + 1 := by simp; omega
  refine ⟨_, hst, ?_⟩
  rw [← hlen']
  apply RepB.of_nf _ h.capLt h.capHalf
  · intro he; simp [capOf, he] at hroom; omega
  · intro he
    have hb := h.buf he
    have := hl (hr he)
    simp at hb ⊢; omega

theorem insert_spec {c : Cfg} {v : VS} {xs : List Elem} (hc : CfgOK c) (h : RepB c v xs) (i : Nat) (e : Elem) (w : W) :
    (i ≤ xs.length ∧ ∃ v', insert c v i e w = (v', w, some ()) ∧ RepB c v' (xs.take i ++ e :: xs.drop i)) ∨
    (insert c v i e w = (v, (dropElem c w e).1, none) ∧
      (xs.length < i ∨ (v.len = capOf c v ∧ rawReserve c v v.len 1 = none))) := by
  have hlen := h.len
  rw [insert_unfold]
  by_cases hi : i > v.len
  · exact Or.inr ⟨by rw [if_pos hi], Or.inl (by omega)⟩
  rw [if_neg hi]
  rcases h.grow_one hc with ⟨v1, hg, h1, hlt⟩ | ⟨hg, hfull, hr⟩
  · obtain ⟨v', hq, hrep⟩ := h1.insert_len hlt i (by omega) e w
    rw [hg, hlen]
    exact Or.inl ⟨by omega, _, by simp only [hq], hrep⟩
  · exact Or.inr ⟨by rw [hg], Or.inr ⟨hfull, hr⟩⟩

theorem remove_unfold (c : Cfg) (v : VS) (i : Nat) (w : W) :
    remove c v i w =
      if ¬ i < v.len then (v, w, none)
      else match v.read i with
        | none => (v, w.flag "remove: read of an uninitialised slot", none)
        | some ret =>
          let p := v.copy c (i + 1) i (v.len - i - 1) w
          ({ p.1 with len := v.len - 1 }, p.2.moved ret, some ret) := by
  unfold remove; rfl

theorem take_drop_succ {α} (xs : List α) (i : Nat) (h : i < xs.length) :
    xs = xs.take i ++ xs[i] :: xs.drop (i + 1) := by
  rw [List.getElem_cons_drop h, List.take_append_drop]

theorem remove_spec {c : Cfg} {v : VS} {xs : List Elem} (h : RepB c v xs) (i : Nat) (w : W) :
    (∃ (hi : i < xs.length) (v' : VS), remove c v i w = (v', w.moved xs[i], some xs[i]) ∧ RepB c v' (xs.eraseIdx i)) ∨
    (xs.length ≤ i ∧ remove c v i w = (v, w, none)) := by
  rcases v with ⟨s, l, cp⟩
  obtain ⟨rest, rfl, rfl⟩ := h.toRep.nf
  rw [remove_unfold]
  by_cases hi : i < xs.length
  · left
    have hr := read_map_some xs rest i hi xs.length cp
    -- the slots: the prefix that stays, the hole, the tail that moves down, the rest
    have hsplit : xs.map some ++ rest = (xs.take i).map some ++ ([some xs[i]] ++ ((xs.drop (i + 1)).map some ++ rest)) := by
      conv => lhs; rw [take_drop_succ xs i hi]
      simp only [List.map_append, List.map_cons, List.append_assoc, List.cons_append, List.nil_append]
    obtain ⟨T, hT, hcd⟩ := copy_block_down ((xs.take i).map some) [some xs[i]] ((xs.drop (i + 1)).map some) rest
    have hA : ((xs.take i).map some).length = i := by simp; omega
    have hB : ((xs.drop (i + 1)).map some).length = xs.length - i - 1 := by simp; omega
    rw [← hsplit, hA, hB, List.length_singleton] at hcd
    have hcopy := copy_ok c ⟨xs.map some ++ rest, xs.length, cp⟩ (i + 1) i (xs.length - i - 1) w (by simp; omega)
    have hl : (xs.eraseIdx i).length = xs.length - 1 := List.length_eraseIdx_of_lt hi
    refine ⟨hi, ⟨(xs.eraseIdx i).map some ++ (T ++ rest), xs.length - 1, cp⟩, ?_, ?_⟩
    · simp only [hi, not_true_eq_false, ↓reduceIte, hr, hcopy, hcd, List.eraseIdx_eq_take_drop_succ, List.map_append,
        List.append_assoc]
    · rw [← hl]
      exact h.reslot (by simp [hl, hT]; omega) (by omega)
  · right
    exact ⟨by omega, by simp [hi]⟩

theorem swapRemove_unfold (c : Cfg) (v : VS) (i : Nat) (w : W) :
    swapRemove c v i w =
      if ¬ i < v.len then (v, w, none)
      else match v.read (v.len - 1) with
        | none => (v, w.flag "swap_remove: read of an uninitialised slot", none)
        | some last =>
          match ({ v with len := v.len - 1 } : VS).read i with
          | none => ({ v with len := v.len - 1 }, w.flag "swap_remove: read of an uninitialised slot", none)
          | some old =>
            let p := ({ v with len := v.len - 1 } : VS).write c i last w
            (p.1, p.2.moved old, some old) := by
  unfold swapRemove; rfl

theorem swapRemove_spec {c : Cfg} {v : VS} {xs : List Elem} (h : RepB c v xs) (i : Nat) (w : W) :
    (∃ (hi : i < xs.length) (v' : VS), swapRemove c v i w = (v', w.moved xs[i], some xs[i]) ∧
        RepB c v' ((xs.set i (xs.getLast (by intro h0; simp [h0] at hi))).dropLast)) ∨
    (xs.length ≤ i ∧ swapRemove c v i w = (v, w, none)) := by
  rcases v with ⟨s, l, cp⟩
  obtain ⟨rest, rfl, rfl⟩ := h.toRep.nf
  rw [swapRemove_unfold]
  by_cases hi : i < xs.length
  · left
    have hne : xs ≠ [] := by intro h0; simp [h0] at hi
    have hlast := read_map_some xs rest (xs.length - 1) (by omega) xs.length cp
    have hold := read_map_some xs rest i hi (xs.length - 1) cp
    have hw := write_in c xs rest (xs.length - 1) cp i (xs.getLast hne) w hi
    have hgl : xs[xs.length - 1]'(by omega) = xs.getLast hne := by simp [List.getLast_eq_getElem]
    refine ⟨hi, ⟨(xs.set i (xs.getLast hne)).map some ++ rest, xs.length - 1, cp⟩, ?_, ?_⟩
    · simp only [hi, not_true_eq_false, ↓reduceIte, hlast, hold, hgl, hw]
    · have hys := h.reslot (ys := xs.set i (xs.getLast hne)) (rest' := rest) (by simp) (by simp)
      have := hys.setLen (m := xs.length - 1) (by simp)
      rwa [List.dropLast_eq_take, List.length_set]
  · right
    exact ⟨by omega, by simp [hi]⟩

theorem dropAll_bad (c : Cfg) (es : List Elem) (w : W) : (dropAll c es w).1.bad = w.bad := by
  induction es generalizing w with
  | nil => rfl
  | cons e es ih =>
    simp only [dropAll]
    rw [ih]
    exact dropElem_bad c w e

theorem dropAll_nextId (c : Cfg) (es : List Elem) (w : W) : (dropAll c es w).1.nextId = w.nextId := by
  induction es generalizing w with
  | nil => rfl
  | cons e es ih =>
    simp only [dropAll]
    rw [ih]
    exact dropElem_nextId c w e

theorem dropAll_noPanic (c : Cfg) (es : List Elem) (w : W) (h : c.dropPanicAt = none) : (dropAll c es w).2 = false := by
  induction es generalizing w with
  | nil => rfl
  | cons e es ih =>
    simp only [dropAll]
    rw [ih, dropElem_noPanic c w e h]; rfl

theorem dropAll_evs (c : Cfg) (es : List Elem) (w : W) : (dropAll c es w).1.evs = w.evs ++ dropEvs c es := by
  induction es generalizing w with
  | nil => simp [dropAll, dropEvs]
  | cons e es ih =>
    simp only [dropAll]
    rw [ih, dropElem_evs, List.append_assoc, ← dropEvs_append]
    rfl

/-- the loop of `truncate` on a buffer that holds `P ++ Q.reverse`, `Q` being the last elements in the order in
which they are dropped; when a destructor panics the guard stores the decremented length -/
theorem truncLoop_run (c : Cfg) (slots : List (Option Elem)) (P : List Elem) :
    ∀ (k l : Nat) (Q : List Elem) (rest : List (Option Elem)) (w : W), slots = (P ++ Q.reverse).map some ++ rest →
      l = P.length + Q.length → k ≤ Q.length →
      ∃ (j : Nat) (w' : W) (p : Bool), truncLoop c slots k l w = (l - j, w', p) ∧ j ≤ k ∧
        w'.evs = w.evs ++ dropEvs c (Q.take j) ∧ w'.bad = w.bad ∧ w'.nextId = w.nextId ∧
        (p = false → j = k) ∧ (c.dropPanicAt = none → p = false) := by
  intro k
  induction k with
  | zero =>
    intro l Q rest w _ _ _
    exact ⟨0, w, false, by simp [truncLoop], Nat.le_refl _, by simp [dropEvs], rfl, rfl, fun _ => rfl, fun _ => rfl⟩
  | succ k ih =>
    intro l Q rest w hs hl hk
    cases Q with
    | nil => simp at hk
    | cons e Q =>
      have hs' : slots = (P ++ Q.reverse).map some ++ (some e :: rest) := by simp [hs]
      have hl' : l - 1 = P.length + Q.length := by rw [hl]; rfl
      have hread : (slots[l - 1]?).join = some e := by
        rw [hs', hl', ← List.length_reverse (as := Q), ← List.length_append, ← List.length_map (f := some)]
        simp
      have hbad := dropElem_bad c w e
      have hnid := dropElem_nextId c w e
      cases hp : (dropElem c w e).2 with
      | true =>
        refine ⟨1, (dropElem c w e).1, true, by simp [truncLoop, hread, hp], Nat.succ_le_succ (Nat.zero_le _), by rw [dropElem_evs]; rfl,
          hbad, hnid, by simp, ?_⟩
        intro hn; rw [dropElem_noPanic c w _ hn] at hp; cases hp
      | false =>
        obtain ⟨j, w', p, hrun, hj, hevs, hb, hn, hpk, hnp⟩ := ih (l - 1) Q (some e :: rest) (dropElem c w e).1 hs' hl' (Nat.le_of_succ_le_succ hk)
        refine ⟨j + 1, w', p, ?_, Nat.succ_le_succ hj, ?_, by rw [hb, hbad], by rw [hn, hnid], fun h => by rw [hpk h], hnp⟩
        · simp only [truncLoop, hread, hp, Bool.false_eq_true, ↓reduceIte, hrun, Nat.sub_sub, Nat.add_comm 1]
        · rw [hevs, dropElem_evs, List.append_assoc, ← dropEvs_append]; rfl

/-- `truncate(n)`: if a destructor panics the length covers exactly what has not been dropped yet -/
theorem truncate_spec {c : Cfg} {v : VS} {xs : List Elem} (h : RepB c v xs) (n : Nat) (w : W) :
    ∃ (m : Nat) (v' : VS) (w' : W) (r : Option Unit), truncate c v n w = (v', w', r) ∧
      min n xs.length ≤ m ∧ m ≤ xs.length ∧ RepB c v' (xs.take m) ∧
      w'.evs = w.evs ++ dropEvs c (xs.drop m).reverse ∧ w'.bad = w.bad ∧ w'.nextId = w.nextId ∧
      (r = some () → m = min n xs.length) ∧ (c.dropPanicAt = none → r = some ()) := by
  rcases v with ⟨s, l, cp⟩
  obtain ⟨rest, rfl, rfl⟩ := h.toRep.nf
  -- `a` elements stay, the last `k` are to be dropped
  obtain ⟨a, ha⟩ : ∃ a, a + (xs.length - n) = xs.length := ⟨_, Nat.sub_add_cancel (Nat.sub_le _ _)⟩
  have hmin : min n xs.length = a := by omega
  simp only [truncate, hmin]
  generalize xs.length - n = k at ha
  obtain ⟨j, w', p, hrun, hj, hevs, hb, hn, hpk, hnp⟩ :=
    truncLoop_run c (xs.map some ++ rest) (xs.take a) k xs.length (xs.drop a).reverse rest w
      (by rw [List.reverse_reverse, List.take_append_drop]) (by simp; omega) (by simp; omega)
  rw [List.take_reverse, List.length_drop, List.drop_drop, show a + (xs.length - a - j) = xs.length - j by omega] at hevs
  refine ⟨xs.length - j, ⟨xs.map some ++ rest, xs.length - j, cp⟩, w', if p then none else some (), by simp only [hrun],
    by omega, by omega, ?_, hevs, hb, hn, ?_, ?_⟩
  · exact h.setLen (Nat.sub_le _ _)
  · intro hr
    cases p with
    | true => simp at hr
    | false => have := hpk rfl; omega
  · intro hnone; rw [hnp hnone]; rfl

theorem truncate_noPanic {c : Cfg} {v : VS} {xs : List Elem} (h : RepB c v xs) (n : Nat) (w : W) (hnp : c.dropPanicAt = none) :
    ∃ (v' : VS) (w' : W), truncate c v n w = (v', w', some ()) ∧ RepB c v' (xs.take n) ∧
      w'.evs = w.evs ++ dropEvs c (xs.drop n).reverse ∧ w'.bad = w.bad ∧ w'.nextId = w.nextId := by
  obtain ⟨m, v', w', r, hp, _, _, hr, hev, hb, hn, hm, hnone⟩ := truncate_spec h n w
  have hr1 := hnone hnp
  subst hr1
  have hm1 := hm rfl
  have ht : xs.take m = xs.take n := by rw [hm1, List.take_eq_take_iff, Nat.min_assoc, Nat.min_self]
  have hd : xs.drop m = xs.drop n :=
    List.append_cancel_left (as := xs.take n) (by rw [List.take_append_drop, ← ht, List.take_append_drop])
  exact ⟨v', w', hp, ht ▸ hr, hd ▸ hev, hb, hn⟩

theorem truncLoop_bad_mono (c : Cfg) (slots : List (Option Elem)) :
    ∀ (k l : Nat) (w : W), w.bad.length ≤ (truncLoop c slots k l w).2.1.bad.length := by
  intro k
  induction k with
  | zero => intro l w; simp [truncLoop]
  | succ k ih =>
    intro l w
    unfold truncLoop
    cases (slots[l - 1]?).join with
    | none => simp [W.flag]
    | some e =>
      simp only []
      cases hp : (dropElem c w e).2 with
      | true => simp [dropElem_bad]
      | false =>
        simp only [Bool.false_eq_true, if_false]
        have := ih (l - 1) (dropElem c w e).1
        rw [dropElem_bad] at this
        exact this

theorem truncate_bad_mono (c : Cfg) (v : VS) (n : Nat) (w : W) : w.bad.length ≤ (V.truncate c v n w).2.1.bad.length := by
  unfold V.truncate
  exact truncLoop_bad_mono c v.slots (v.len - n) v.len w

theorem pop_eq (v : VS) (w : W) :
    V.pop v w =
      if v.len = 0 then (v, w, none)
      else match v.read (v.len - 1) with
        | some e => ({ v with len := v.len - 1 }, w.moved e, some e)
        | none => ({ v with len := v.len - 1 }, w.flag "pop: read of an uninitialised slot", none) := rfl

end Bump.V
