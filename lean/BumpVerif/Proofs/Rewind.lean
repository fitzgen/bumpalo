import BumpVerif.Proofs.Live
/-! The rewind of a failed initialiser that did allocate in the arena (the general case of
`alloc_try_with` / `try_alloc_try_with` returning `Err`). -/
namespace Bump
open Gen

/-- Raising the finger over a live block that starts at it keeps the invariant: every other live
block in that chunk lies at or above the end of the removed block. -/
theorem raise_finger_live {E} {s : St} {pre post : List Block} {c : Chunk} {cs : List Chunk} {slot pad : Nat}
    (inv : LiveInv E ⟨s, pre ++ ⟨slot, pad⟩ :: post⟩) (hc : s.a.chunks = c :: cs) (hptr : c.ptr = slot)
    (hle : slot + pad ≤ c.footer) (hM : s.a.M ∣ slot + pad) :
    LiveInv E ⟨{ s with a := { s.a with chunks := { c with ptr := slot + pad } :: cs } }, pre ++ post⟩ := by
  have hw := inv.wf.chunks c (by rw [hc]; exact List.mem_cons_self)
  refine inv.transport (mid_sublist _ _ _) (setPtr_wf inv.wf hc (by have := hw.ptr_ge; omega) hle hM) rfl
    fun b hb hpos hi => ?_
  rcases InChunk.head_or_tail hc hi with ⟨h1, h2⟩ | ⟨x, hx, h1, h2⟩
  · refine ⟨{ c with ptr := slot + pad }, List.mem_cons_self, ?_, h2⟩
    have hrel := noOverlap_mid inv.disj hb
    unfold NoOverlap Disj at hrel
    show slot + pad ≤ b.ptr
    simp only at hrel
    omega
  · exact ⟨x, List.mem_cons_of_mem _ hx, h1, h2⟩

/-- the reservation of a fallible initialiser's slot, with its alignment padding: the region
`[slot, slot+pad)` is what the rewind will give back -/
def PadShape (E : Nat) (a a1 : Arena) (slot pad : Nat) : Prop :=
  (a.chunks = [] ∧ a1 = a ∧ slot = E ∧ pad = 0) ∨
  (∃ (c : Chunk) (cs : List Chunk), a.chunks = c :: cs ∧ a1.chunks = { c with ptr := slot } :: cs ∧ slot + pad = c.ptr) ∨
  (∃ C : Chunk, a1.chunks = { C with ptr := slot } :: a.chunks ∧ slot + pad = C.footer ∧
      (∀ h ∈ a.chunks, Disj C.data C.size h.data h.size) ∧ Disj C.data C.size E FOOTER_SIZE)

theorem AllocShape.padded {E a a' p sz} (sh : AllocShape E a a' p sz) :
    ∃ pad, sz ≤ pad ∧ PadShape E a a' p pad ∧ AllocShape E a a' p pad := by
  rcases sh with ⟨hnil, ha, hp, hsz⟩ | ⟨c, cs, hc, hc', hge, hle⟩ | ⟨C, hc', hge, hle, hpf, hdis, hsd, hab⟩
  · exact ⟨0, Nat.le_of_eq hsz, .inl ⟨hnil, ha, hp, rfl⟩, .inl ⟨hnil, ha, hp, rfl⟩⟩
  · have e := Nat.add_sub_of_le (Nat.le_trans (Nat.le_add_right p sz) hle)
    exact ⟨c.ptr - p, Nat.le_sub_of_add_le' hle, .inr (.inl ⟨c, cs, hc, hc', e⟩), .inr (.inl ⟨c, cs, hc, hc', hge, Nat.le_of_eq e⟩)⟩
  · have e := Nat.add_sub_of_le (Nat.le_trans (Nat.le_add_right p sz) hle)
    exact ⟨C.footer - p, Nat.le_sub_of_add_le' hle, .inr (.inr ⟨C, hc', e, hdis, hsd⟩),
      .inr (.inr ⟨C, hc', hge, Nat.le_of_eq e, hpf, hdis, hsd, hab⟩)⟩

theorem alloc_live_padded {E sz p} {s s1 : St} {live : List Block} (hE : EnvOK E) (inv : LiveInv E ⟨s, live⟩)
    (hwf' : ArenaWF E s1.a) (hm : s1.a.M = s.a.M) (hal : s.a.M ∣ p) (hpos : 0 < p)
    (sh : AllocShape E s.a s1.a p sz) :
    ∃ pad, sz ≤ pad ∧ PadShape E s.a s1.a p pad ∧ LiveInv E ⟨s1, live ++ [⟨p, pad⟩]⟩ :=
  let ⟨pad, h1, h2, h3⟩ := sh.padded
  ⟨pad, h1, h2, alloc_live hE inv hwf' hm hal hpos h3⟩

theorem head_of_persist {E} {a1 a2 : Arena} {H x : Chunk} {Hs : List Chunk} (wf2 : ArenaWF E a2) (hp : Persist a1 a2)
    (hc2 : a2.chunks = H :: Hs) (hx : x ∈ a1.chunks) (hx1 : x.data ≤ H.ptr ∧ H.ptr ≤ x.footer) : H.footer = x.footer := by
  obtain ⟨x', hx', hd, hs⟩ := hp.2 x hx
  have hHmem : H ∈ a2.chunks := by rw [hc2]; exact List.mem_cons_self
  have hw := wf2.chunks H hHmem
  have hf : x'.footer = x.footer := by unfold Chunk.footer; rw [hd, hs]
  rw [chunk_of_point wf2 hHmem hx' ⟨hw.ptr_ge, hw.ptr_le⟩ (by rw [hf, hd]; exact hx1), hf]

/-- **The rewind is safe in general.** `s` is the state on entry, `s1` right after the slot was
reserved (with its padding `pad`), `s2` after the initialiser ran (it may have allocated, kept and
released blocks, even acquired chunks). Whatever the rewind does, the blocks that were live on
entry and the blocks the initialiser kept are all still in used parts, pairwise disjoint. -/
theorem rewind_live {E} {s s1 s2 : St} {live kept : List Block} {slot pad : Nat}
    (wf0 : ArenaWF E s.a) (wf1 : ArenaWF E s1.a) (hm1 : s1.a.M = s.a.M)
    (hps : PadShape E s.a s1.a slot pad) (hpers : Persist s1.a s2.a)
    (inv2 : LiveInv E ⟨s2, live ++ ⟨slot, pad⟩ :: kept⟩) :
    (rewind E (footerId s.a) (s.a.cur E).ptr slot s2).2 = .ok () ∧
    LiveInv E ⟨(rewind E (footerId s.a) (s.a.cur E).ptr slot s2).1, live ++ kept⟩ := by
  unfold rewind
  by_cases hl : isLast E s2.a slot = true
  · rw [if_pos hl]
    have hcp : (s2.a.cur E).ptr = slot := eq_of_beq hl
    cases hc2 : s2.a.chunks with
    | nil =>
      -- nothing was ever acquired: the arena was chunk-less on entry and still is
      have hs1nil : s1.a.chunks = [] := by
        cases h1 : s1.a.chunks with
        | nil => rfl
        | cons x xs =>
          obtain ⟨y, hy, _, _⟩ := hpers.2 x (by rw [h1]; exact List.mem_cons_self)
          rw [hc2] at hy; cases hy
      rcases hps with ⟨hnil, _⟩ | ⟨c, cs, _, hc1, _⟩ | ⟨C, hc1, _⟩
      · have ht : (if footerId s2.a == footerId s.a then (s.a.cur E).ptr else (s2.a.cur E).footer) = E := by
          rw [footerId, footerId, hc2, hnil, Arena.cur_nil E hnil]; rfl
        rw [ht, storePtr_nil _ hc2]
        exact ⟨rfl, inv2.transport (mid_sublist _ _ _) inv2.wf rfl fun _ _ _ h => h⟩
      · rw [hs1nil] at hc1; cases hc1
      · rw [hs1nil] at hc1; cases hc1
    | cons H Hs =>
      rw [Arena.cur_cons E hc2] at hcp ⊢
      rw [storePtr_cons _ _ hc2]
      refine ⟨rfl, ?_⟩
      have hHmem : H ∈ s2.a.chunks := by rw [hc2]; exact List.mem_cons_self
      have hwH := inv2.wf.chunks H hHmem
      have hM2 : s2.a.M = s.a.M := by rw [hpers.1, hm1]
      have hf2 : footerId s2.a = some H.footer := by rw [footerId, hc2]; rfl
      -- the chunk of `s1` that holds the slot is, in `s2`, the head chunk `H`
      have key : ∀ x : Chunk, ({ x with ptr := slot } : Chunk) ∈ s1.a.chunks → H.footer = x.footer := fun x hx =>
        have hw := wf1.chunks _ hx
        head_of_persist (x := { x with ptr := slot }) inv2.wf hpers hc2 hx (by rw [hcp]; exact ⟨hw.ptr_ge, hw.ptr_le⟩)
      rcases hps with ⟨hnil, ha, hslot, hpad⟩ | ⟨c, cs, hc0, hc1, hsp⟩ | ⟨C, hc1, hsp, hdis, hsd⟩
      · -- chunk-less on entry with a zero-sized slot at the static: a real chunk's finger is never there
        exfalso
        have hd := inv2.wf.sdisj H hHmem
        have f := footer_add hwH
        have := hwH.ptr_ge; have := hwH.ptr_le; have := FS
        unfold Disj at hd
        omega
      · -- the slot went into the chunk that was current on entry: the finger goes back to where it was
        have hHf : H.footer = c.footer := key c (by rw [hc1]; exact List.mem_cons_self)
        have hw0 := wf0.head hc0
        have ht : (if footerId s2.a == footerId s.a then (s.a.cur E).ptr else H.footer) = slot + pad := by
          rw [hf2, hHf, show footerId s.a = some c.footer by rw [footerId, hc0]; rfl, beq_self_eq_true, if_pos rfl,
            Arena.cur_cons E hc0, hsp]
        rw [ht]
        exact raise_finger_live inv2 hc2 hcp (by rw [hsp, hHf]; exact hw0.ptr_le) (by rw [hsp, hM2]; exact hw0.ptr_al)
      · -- the slot forced a fresh chunk, which is still the current one: its finger goes to its footer
        have hHf : H.footer = C.footer := key C (by rw [hc1]; exact List.mem_cons_self)
        have ht : (if footerId s2.a == footerId s.a then (s.a.cur E).ptr else H.footer) = slot + pad := by
          rw [hf2, hHf, show (some C.footer == footerId s.a) = false from
            footerId_fresh_ne (C := { C with ptr := slot }) wf1 hc1, if_neg Bool.false_ne_true, hsp]
        rw [ht]
        exact raise_finger_live inv2 hc2 hcp (by rw [hsp, hHf]; exact Nat.le_refl _)
          (by rw [hsp, ← hHf]; exact Nat.dvd_trans inv2.wf.m_dvd16 (footer_al hwH))
  · rw [if_neg hl]
    exact ⟨rfl, inv2.transport (mid_sublist _ _ _) inv2.wf rfl fun _ _ _ h => h⟩

end Bump
