import BumpVerif.Model.Box
/-!
# Box family: the primitive step sequences, and the ownership invariant

What each function of `boxed.rs` (as a `ManuallyDrop` / `ptr::read` / `drop_in_place` step sequence) does to the drop log
and the moved-out log; the forms an operation's effect takes (`Eff.Shape`); hence every effect is *conservative*
(`Eff.WF`): the ids it leaves in the slot plus the ids it logs are exactly the ids that were in the slot plus the fresh
ones, each once — which is what the invariant `Own` of `BoxOwn.lean` needs of a step.
-/
namespace Bump.Bx

theorem dropGlue_eq (pa : Option Nat) (cs : List Cell) (k : Nat) (p : Bool) (fx : Fx) :
    dropGlue pa cs k p fx =
      (p || match pa with | some i => decide (k ≤ i ∧ i < k + cs.length) | none => false,
       { fx with drops := fx.drops ++ cs.map (·.id) }) := by
  induction cs generalizing k p fx with
  | nil => cases pa <;> simp [dropGlue]; omega
  | cons c rest ih =>
    rw [dropGlue, ih]
    simp only [dropInPlace1, List.length_cons, List.map_cons, List.append_assoc, List.singleton_append, Bool.or_assoc]
    congr 2
    cases pa with
    | none => rfl
    | some i =>
      by_cases h : i = k
      · subst h; simp
      · have h' : (some i == some k) = false := by simp [h]
        rw [h', Bool.false_or]
        apply decide_eq_decide.mpr
        omega

theorem dropGlue_fx (pa : Option Nat) (cs : List Cell) (k : Nat) (p : Bool) (fx : Fx) :
    (dropGlue pa cs k p fx).2 = { fx with drops := fx.drops ++ cs.map (·.id) } :=
  congrArg Prod.snd (dropGlue_eq pa cs k p fx)

@[simp] theorem intoRaw_eq (b : List Cell) (fx : Fx) : intoRaw b fx = (b, fx) := by
  simp [intoRaw, Frame.arg, Frame.manuallyDrop, Frame.scopeEnd]

@[simp] theorem intoInner_eq (b : List Cell) (fx : Fx) :
    intoInner b fx = (b, { fx with moved := fx.moved ++ b.map (·.id) }) := by
  simp [intoInner, ptrRead]

@[simp] theorem leak_eq (b : List Cell) (fx : Fx) : leak b fx = (b, fx) := by simp [leak]

@[simp] theorem unsize_eq (b : List Cell) (fx : Fx) : unsize b fx = (b, fx) := by simp [unsize, fromRaw]

@[simp] theorem sliceToVec_eq (b : List Cell) (fx : Fx) : sliceToVec b fx = (b, fx) := by simp [sliceToVec]

theorem boxDrop_eq (b : List Cell) (pa : Option Nat) (fx : Fx) :
    boxDrop b pa fx =
      (match pa with | some i => decide (i < b.length) | none => false,
       { fx with drops := fx.drops ++ b.map (·.id) }) := by
  simp [boxDrop, Frame.arg, Frame.scopeEnd, dropGlue_eq]

@[simp] theorem downcast_eq (tag t : Nat) (b : List Cell) (fx : Fx) :
    downcast tag t b fx = (tag == t, b, fx) := by
  unfold downcast; split <;> simp_all [fromRaw]

@[simp] theorem arrToSlice_eq (a : List Cell) (fx : Fx) : arrToSlice a fx = (a, fx) := by
  simp [arrToSlice, Frame.arg, Frame.manuallyDrop, Frame.scopeEnd, fromRaw]

@[simp] theorem sliceToArr_eq (n : Nat) (s : List Cell) (fx : Fx) :
    sliceToArr n s fx = (s.length == n, s, fx) := by
  unfold sliceToArr; split <;> simp_all [fromRaw, Frame.arg, Frame.manuallyDrop, Frame.scopeEnd]

@[simp] theorem intoBoxedSlice_eq (v : List Cell) (fx : Fx) : intoBoxedSlice v fx = (v, fx) := by
  simp [intoBoxedSlice, Frame.arg, Frame.manuallyDrop, Frame.scopeEnd, fromRaw]

@[simp] theorem fromIterIn_eq (items : List Cell) (fx : Fx) : fromIterIn items fx = (items, fx) := by
  simp [fromIterIn]

theorem mkCells_ids (id0 : Nat) (xs : List Nat) : (mkCells id0 xs).map (·.id) = List.range' id0 xs.length := by
  induction xs generalizing id0 with
  | nil => simp [mkCells]
  | cons x xs ih => simp [mkCells, ih, List.range'_succ]

theorem mkCells_vals (id0 : Nat) (xs : List Nat) : (mkCells id0 xs).map (·.val) = xs := by
  induction xs generalizing id0 with
  | nil => simp [mkCells]
  | cons x xs ih => simp [mkCells, ih]

theorem setVal_ids (cs : List Cell) (i x : Nat) : (setVal cs i x).map (·.id) = cs.map (·.id) := by
  unfold setVal
  split
  · next c h =>
    obtain ⟨hi, rfl⟩ := List.getElem?_eq_some_iff.mp h
    have := List.set_getElem_self (as := cs.map (·.id)) (i := i) (by rw [List.length_map]; exact hi)
    rw [List.getElem_map] at this
    rw [List.map_set]
    exact this
  · rfl

theorem setVal_length (cs : List Cell) (i x : Nat) : (setVal cs i x).length = cs.length := by
  unfold setVal; split <;> simp

def Eff.WF (e : Eff) (w : W) : Prop :=
  match e with
  | .nop _ => True
  | .upd s new nfresh fx _ =>
    ∃ old, w.slots[s]? = some old ∧
      (new.ids ++ fx.drops ++ fx.moved).Perm (old.ids ++ List.range' w.nextId nfresh)

inductive Eff.Shape (op : Op) (w : W) : Eff → Prop
  | nop {a} : Shape op w (.nop a)
  | keep {s old new n a} : w.slots[s]? = some old → new.ids = old.ids ++ List.range' w.nextId n →
      Shape op w (.upd s new n {} a)
  | drop {s pa old a} : op = .drop s pa → w.slots[s]? = some old → Shape op w (.upd s .empty 0 ⟨old.ids, []⟩ a)
  | moveOut {s old a} : op = .intoInner s → w.slots[s]? = some old → Shape op w (.upd s .empty 0 ⟨[], old.ids⟩ a)

theorem Eff.Shape.ofCreate {op : Op} {w : W} {new : Slot} {n : Nat} (s : Nat)
    (hn : new.ids = List.range' w.nextId n) : Eff.Shape op w (Bx.create w s new n {}).1 := by
  unfold Bx.create
  split
  · next h => exact .keep h hn
  · exact .nop

/-- In each case of `effOf` the primitive step sequences are first replaced by what they compute (`intoRaw_eq` …
`boxDrop_eq`); the branch is then a `nop`, a `drop`, an `into_inner`, a rewrite of an occupied slot that keeps its ids, or
a `create`. -/
theorem effOf_shape (z : Bool) (op : Op) (w : W) : (effOf z op w).1.Shape op w := by
  fun_cases effOf z op w
  all_goals try simp +zetaDelta only [fromIterIn_eq, unsize_eq, intoInner_eq, intoRaw_eq, leak_eq, downcast_eq,
    arrToSlice_eq, sliceToArr_eq, intoBoxedSlice_eq, sliceToVec_eq, fromRaw, dropGlue_eq, boxDrop_eq] at *
  all_goals injections
  all_goals subst_vars
  all_goals first
    | exact .nop
    | exact .drop rfl ‹_›
    | exact .moveOut rfl ‹_›
    | exact .keep ‹_› (by simp only [Slot.ids, Slot.cells, setVal_ids, ↓apply_ite Slot.ids, ite_self, List.map_cons,
        List.map_nil, List.map_append, List.range'_one, List.range'_zero, List.append_nil])
    | exact .ofCreate _ (by simp only [Slot.ids, Slot.cells, mkCells_ids, List.map_cons, List.map_nil,
        List.range'_one, List.range'_zero])

theorem Eff.Shape.wf {op : Op} {w : W} {e : Eff} (h : e.Shape op w) : e.WF w := by
  cases h with
  | nop => trivial
  | keep hs hi => exact ⟨_, hs, by simp only [hi, List.append_nil, List.Perm.refl]⟩
  | drop _ hs => exact ⟨_, hs, by simp only [Slot.ids, Slot.cells, List.map_nil, List.nil_append, List.range'_zero, List.append_nil, List.Perm.refl]⟩
  | moveOut _ hs => exact ⟨_, hs, by simp only [Slot.ids, Slot.cells, List.map_nil, List.nil_append, List.range'_zero, List.append_nil, List.Perm.refl]⟩

theorem Eff.Shape.drops {op : Op} {w : W} {e : Eff} (hs : e.Shape op w) (env : Env) (h : ∀ s pa, op ≠ .drop s pa) :
    (applyEff env e w).drops = w.drops := by
  cases hs with
  | nop => rfl
  | keep => exact List.append_nil _
  | drop hop => exact absurd hop (h _ _)
  | moveOut => exact List.append_nil _

theorem Eff.Shape.moved {op : Op} {w : W} {e : Eff} (hs : e.Shape op w) (env : Env) (h : ∀ s, op ≠ .intoInner s) :
    (applyEff env e w).moved = w.moved := by
  cases hs with
  | nop => rfl
  | keep => exact List.append_nil _
  | drop => exact List.append_nil _
  | moveOut hop => exact absurd hop (h _)

theorem effOf_wf (z : Bool) (op : Op) (w : W) : (effOf z op w).1.WF w := (effOf_shape z op w).wf

/-! The step sequences matter: `into_inner` written *without* the `ManuallyDrop` (the handle's own
`Drop` then runs at scope end, after the value was read out) is not conservative — the value is both
dropped and moved out, which is exactly the double drop the harness detects on such a crate. -/
def intoInnerNoManuallyDrop (b : List Cell) (fx : Fx) : List Cell × Fx :=
  let f := Frame.arg b
  let v := ptrRead f.cells fx
  (f.cells, (f.scopeEnd none v).2)

example : let fx := (intoInnerNoManuallyDrop [⟨7, 0⟩] {}).2
    fx.drops = [7] ∧ fx.moved = [7] ∧ ¬ ((Slot.empty).ids ++ fx.drops ++ fx.moved).Perm [7] := by decide

end Bump.Bx
