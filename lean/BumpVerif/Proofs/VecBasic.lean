import BumpVerif.Model.Vec
/-!
# Representation relation of the Vec slot machine; `padTo` and `VS.read` on a represented vector
-/
namespace Bump.V
open Bump

/-- the elements below `len`, as the safe API sees them -/
def abs (v : VS) : List Elem := v.owned

/-- `v` represents the list `xs`: its slots start with the initialised elements `xs`,
`len = |xs|`, the buffer has `cap` slots (sized elements), `len ≤ capacity()`. -/
structure Rep (c : Cfg) (v : VS) (xs : List Elem) : Prop where
  slots : ∃ rest, v.slots = xs.map some ++ rest
  len : v.len = xs.length
  buf : c.esz ≠ 0 → v.slots.length = v.cap
  lenCap : v.len ≤ capOf c v

theorem filterMap_map_some {α} (xs : List α) : (xs.map some).filterMap id = xs := by
  induction xs with
  | nil => rfl
  | cons x xs ih => simp [ih]

theorem Rep.take_len {c v xs} (h : Rep c v xs) : v.slots.take v.len = xs.map some := by
  obtain ⟨rest, hs⟩ := h.slots
  rw [hs, h.len, ← List.length_map (f := some), List.take_left]

theorem Rep.abs_eq {c v xs} (h : Rep c v xs) : abs v = xs := by
  rw [abs, VS.owned, h.take_len, filterMap_map_some]

theorem Rep.len_le_slots {c v xs} (h : Rep c v xs) : xs.length ≤ v.slots.length := by
  obtain ⟨rest, hs⟩ := h.slots
  simp [hs]

theorem getElem?_join_map_some (xs : List Elem) (rest : List (Option Elem)) (i : Nat) (h : i < xs.length) :
    ((xs.map some ++ rest)[i]?).join = some xs[i] := by
  simp [List.getElem?_append_left, h]

theorem read_map_some (xs : List Elem) (rest : List (Option Elem)) (i : Nat) (h : i < xs.length) (len cap : Nat) :
    (VS.mk (xs.map some ++ rest) len cap).read i = some xs[i] :=
  getElem?_join_map_some xs rest i h

theorem Rep.read {c v xs} (h : Rep c v xs) (i : Nat) (hi : i < xs.length) : v.read i = some xs[i] := by
  obtain ⟨rest, hs⟩ := h.slots
  cases v with
  | mk slots len cap =>
    simp at hs; subst hs
    exact read_map_some xs rest i hi len cap

theorem map_some_drop {α} (xs : List α) (i : Nat) (h : i < xs.length) :
    (xs.drop i).map some = some xs[i] :: (xs.drop (i + 1)).map some := by
  rw [← List.getElem_cons_drop h, List.map_cons]

theorem drop_split {α} (xs : List α) {a b : Nat} (h : a ≤ b) : xs.drop a = (xs.drop a).take (b - a) ++ xs.drop b := by
  have : xs.drop b = (xs.drop a).drop (b - a) := by rw [List.drop_drop]; congr 1; omega
  rw [this, List.take_append_drop]

theorem split3 {α} (xs : List α) {a b : Nat} (h : a ≤ b) : xs = xs.take a ++ ((xs.drop a).take (b - a) ++ xs.drop b) :=
  (List.take_append_drop a xs).symm.trans (congrArg _ (drop_split xs h))

theorem padTo_of_le {n : Nat} {s : List (Option Elem)} (h : n ≤ s.length) : padTo n s = s := by
  simp [padTo, Nat.sub_eq_zero_of_le h]

theorem padTo_prefix (n : Nat) (pre rest : List (Option Elem)) :
    padTo n (pre ++ rest) = pre ++ padTo (n - pre.length) rest := by
  simp [padTo, List.append_assoc, Nat.sub_add_eq]

theorem drop_padTo (n : Nat) (s : List (Option Elem)) : (padTo n s).drop n = s.drop n := by
  simp [padTo, List.drop_append]

theorem length_padTo (n : Nat) (s : List (Option Elem)) : (padTo n s).length = max n s.length := by
  simp [padTo]; omega

end Bump.V
