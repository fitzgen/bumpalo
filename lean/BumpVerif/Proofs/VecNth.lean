import BumpVerif.Proofs.VecDrain
/-!
# `into_iter().nth(n)` followed by the drop of the `IntoIter` (`Bump.V.intoIterNthOp`)

`IntoIter` does not override `nth`: `n` items are taken and dropped at once, one more goes to
the caller, the drop of the iterator drops the rest.  A destructor that panics while the skipped
items are dropped unwinds through `IntoIter::drop`, which drops what is left.
-/
namespace Bump.V
open Bump

/-- the panic trigger of destructors is one-shot: once the call counter is past it, no destructor panics -/
theorem dropEach_past (c : Cfg) (p : Nat) (hp : c.dropPanicAt = some p) :
    ∀ (es : List Elem) (w : W), p < w.dropCalls → (dropEach c es w).2 = none := by
  intro es
  induction es with
  | nil => intro w _; rfl
  | cons e es ih =>
    intro w hw
    unfold dropEach dropElem
    by_cases hd : c.needsDrop = true
    · have hne : (c.dropPanicAt == some w.dropCalls) = false := by
        rw [hp]; simp; omega
      simp only [hd, ↓reduceIte, hne, Bool.false_eq_true]
      exact ih _ (by simp; omega)
    · simp only [hd, ↓reduceIte, Bool.false_eq_true]
      exact ih _ hw

theorem dropEach_panicked (c : Cfg) : ∀ (es : List Elem) (w : W) (left : List Elem), (dropEach c es w).2 = some left →
    ∃ p, c.dropPanicAt = some p ∧ p < (dropEach c es w).1.dropCalls := by
  intro es
  induction es with
  | nil => intro w left h; simp [dropEach] at h
  | cons e es ih =>
    intro w left
    unfold dropEach dropElem
    by_cases hd : c.needsDrop = true
    · by_cases hne : (c.dropPanicAt == some w.dropCalls) = true
      · simp only [hd, ↓reduceIte, hne]
        intro _
        exact ⟨w.dropCalls, by simpa using hne, by simp⟩
      · simp only [hd, ↓reduceIte, hne, Bool.false_eq_true]
        exact ih _ left
    · simp only [hd, ↓reduceIte, Bool.false_eq_true]
      exact ih _ left

theorem intoIterNthOp_rep (c : Cfg) (xs : List Elem) (rest : List (Option Elem)) (cp n : Nat) (w : W) :
    intoIterNthOp c ⟨xs.map some ++ rest, xs.length, cp⟩ n w =
      match dropEach c (xs.take (min n xs.length)) w with
      | (w, some left) => ((dropEach c (left ++ xs.drop (min n xs.length)) w).1, none)
      | (w, none) =>
        if h : n < xs.length then
          match dropEach c (xs.drop (n + 1)) (w.moved xs[n]) with
          | (w, some _) => (w, none)
          | (w, none) => (w, some [xs[n]])
        else (w, some []) := by
  unfold intoIterNthOp
  have hrr0 := readRange_rep xs rest xs.length cp 0 (min n xs.length) w (Nat.min_le_right _ _) (Nat.zero_le _)
  rw [List.drop_zero, Nat.sub_zero] at hrr0
  simp only [hrr0]
  rcases dropEach c (xs.take (min n xs.length)) w with ⟨w1, _ | left⟩
  · dsimp only
    by_cases hn : n < xs.length
    · have hrr2 := readRange_rep xs rest xs.length cp (n + 1) xs.length (w1.moved xs[n]) (Nat.le_refl _) hn
      rw [List.take_of_length_le (by simp)] at hrr2
      rw [if_pos hn, dif_pos hn, read_map_some xs rest n hn xs.length cp]
      simp only [hrr2]
      rcases dropEach c (xs.drop (n + 1)) (w1.moved xs[n]) with ⟨w3, _ | l3⟩ <;> rfl
    · rw [if_neg hn, dif_neg hn]
  · have hrr1 := readRange_rep xs rest xs.length cp (min n xs.length) xs.length w1 (Nat.le_refl _) (Nat.min_le_right _ _)
    rw [List.take_of_length_le (by simp)] at hrr1
    simp only [hrr1]

/-- the three ways a run of `into_iter().nth(n)` + drop can go:
* a destructor of one of the skipped items panicked (`k1` of them were dropped, the panicking one
  included); the unwinding drops all that is left (the trigger is one-shot);
* `n` is in range: the `n` skipped items are dropped, `xs[n]` goes to the caller, a prefix (`k3`)
  of the rest is dropped — all of it unless a destructor panics;
* `n` is out of range: everything is dropped, the caller gets nothing. -/
theorem intoIterNthOp_spec {c : Cfg} {v : VS} {xs : List Elem} (h : RepB c v xs) (n : Nat) (w : W) :
    ∃ (w' : W) (r : Option (List Elem)), intoIterNthOp c v n w = (w', r) ∧ w'.bad = w.bad ∧ w'.nextId = w.nextId ∧
      ((∃ k1, k1 ≤ min n xs.length ∧ r = none ∧ c.dropPanicAt ≠ none ∧
          w'.evs = w.evs ++ dropEvs c (xs.take k1) ++ dropEvs c (xs.drop k1)) ∨
       (∃ (hn : n < xs.length) (k3 : Nat),
          w'.evs = w.evs ++ dropEvs c (xs.take n) ++ movedEvs [xs[n]] ++ dropEvs c ((xs.drop (n + 1)).take k3) ∧
          (r = none ∨ r = some [xs[n]]) ∧ (r = none → c.dropPanicAt ≠ none) ∧
          (r ≠ none → (xs.drop (n + 1)).take k3 = xs.drop (n + 1))) ∨
       (xs.length ≤ n ∧ r = some [] ∧ w'.evs = w.evs ++ dropEvs c xs)) := by
  rcases v with ⟨sl, l, cp⟩
  obtain ⟨rest, rfl, rfl⟩ := h.toRep.nf
  rw [intoIterNthOp_rep]
  obtain ⟨k1, w1, r1, hde1, hk1, hev1, hb1, hn1, hr1a, hr1b, hr1c⟩ := dropEach_spec c (xs.take (min n xs.length)) w
  rw [List.length_take_of_le (Nat.min_le_right _ _)] at hk1
  rw [hde1]
  cases r1 with
  | some left =>
    -- the unwinding drops all that is left; the trigger is used up
    obtain ⟨k2, w2, r2, hde2, _, hev2, hb2, hn2, hr2a, _⟩ := dropEach_spec c (xs.drop k1) w1
    obtain ⟨p, hp, hpast⟩ := dropEach_panicked c (xs.take (min n xs.length)) w left (by rw [hde1])
    rw [hde1] at hpast
    have hr2 : r2 = none := by
      have := dropEach_past c p hp (xs.drop k1) w1 hpast
      rwa [hde2] at this
    dsimp only
    rw [hr1b left rfl, List.drop_take, ← drop_split xs hk1, hde2]
    refine ⟨w2, none, rfl, hb2.trans hb1, hn2.trans hn1, Or.inl ⟨k1, hk1, rfl, (fun hnp => nomatch hr1c hnp), ?_⟩⟩
    rw [hev2, hev1, List.take_take, Nat.min_eq_left hk1, hr2a hr2, List.take_length]
  | none =>
    rw [hr1a rfl, List.take_length] at hev1
    dsimp only
    by_cases hn : n < xs.length
    · rw [Nat.min_eq_left (Nat.le_of_lt hn)] at hev1
      obtain ⟨k3, w3, r3, hde3, _, hev3, hb3, hn3, hr3a, _, hr3c⟩ := dropEach_spec c (xs.drop (n + 1)) (w1.moved xs[n])
      rw [dif_pos hn, hde3]
      have hev : w3.evs = w.evs ++ dropEvs c (xs.take n) ++ movedEvs [xs[n]] ++ dropEvs c ((xs.drop (n + 1)).take k3) := by
        rw [hev3, W.moved_evs w1 xs[n], hev1]
      cases r3 with
      | some l3 =>
        exact ⟨w3, none, rfl, hb3.trans hb1, hn3.trans hn1,
          Or.inr (Or.inl ⟨hn, k3, hev, Or.inl rfl, (fun _ hnp => nomatch hr3c hnp), fun hne => absurd rfl hne⟩)⟩
      | none =>
        exact ⟨w3, some [xs[n]], rfl, hb3.trans hb1, hn3.trans hn1,
          Or.inr (Or.inl ⟨hn, k3, hev, Or.inr rfl, (fun hx => nomatch hx), fun _ => by rw [hr3a rfl, List.take_length]⟩)⟩
    · rw [Nat.min_eq_right (Nat.le_of_not_lt hn), List.take_length] at hev1
      rw [dif_neg hn]
      exact ⟨w1, some [], rfl, hb1, hn1, Or.inr (Or.inr ⟨Nat.le_of_not_lt hn, rfl, hev1⟩)⟩

/-- where a leak can come from: only a destructor that panics *after* `xs[n]` was handed out (in the
final drop of the iterator) leaks, and what it leaks is a suffix of `xs.drop (n + 1)`; a panic among the
skipped items leaks nothing, because the unwinding drops everything that is left -/
theorem intoIterNthOp_own_leak {c : Cfg} {v : VS} {xs : List Elem} {ins held : List Nat} (hd : c.needsDrop = true)
    (h : RepB c v xs) (n : Nat) (w : W) (ho : Own ins xs w.evs held) :
    ∃ lk, Own ins [] (intoIterNthOp c v n w).1.evs (lk ++ held) ∧
      (lk ≠ [] → n < xs.length ∧ c.dropPanicAt ≠ none ∧ (intoIterNthOp c v n w).2 = none ∧
        ∃ k, lk = ids ((xs.drop (n + 1)).drop k)) := by
  obtain ⟨w', r, hrun, _, _, hcase⟩ := intoIterNthOp_spec h n w
  rw [hrun]
  rcases hcase with ⟨k1, _, _, hp, hev⟩ | ⟨hn, k3, hev, hr, hrp, hfull⟩ | ⟨_, _, hev⟩
  · rw [List.append_assoc, ← dropEvs_append, List.take_append_drop] at hev
    exact ⟨[], ho.split [] xs [] [] (.of_eq (by simp))
      (by simp [hev, evDrops_dropEvs c hd]) (by simp [hev, evMoved_dropEvs]), fun hx => absurd rfl hx⟩
  · have hx : xs.Perm (xs.take n ++ xs[n] :: ((xs.drop (n + 1)).take k3 ++ (xs.drop (n + 1)).drop k3)) := by
      rw [List.take_append_drop]; exact .of_eq (take_drop_succ xs n hn)
    refine ⟨ids ((xs.drop (n + 1)).drop k3), ho.split [] (xs.take n ++ (xs.drop (n + 1)).take k3) [xs[n]] _
      (hx.trans ?_) (by simp [hev, evDrops_dropEvs c hd, evDrops_movedEvs])
      (by simp [hev, evMoved_dropEvs, evMoved_movedEvs]), ?_⟩
    · rw [List.perm_iff_count]; intro a
      simp only [List.count_append, List.count_cons, List.count_nil]; omega
    · intro hlk
      have hrn : r = none := by
        cases r with
        | none => rfl
        | some m =>
          have hd := List.take_append_drop k3 (xs.drop (n + 1))
          rw [hfull nofun, List.append_right_eq_self] at hd
          exact absurd (by rw [hd]; rfl) hlk
      exact ⟨hn, hrp hrn, hrn, k3, rfl⟩
  · exact ⟨[], ho.split [] xs [] [] (.of_eq (by simp))
      (by simp [hev, evDrops_dropEvs c hd]) (by simp [hev, evMoved_dropEvs]), fun hx => absurd rfl hx⟩

theorem intoIterNthOp_own {c : Cfg} {v : VS} {xs : List Elem} {ins held : List Nat} (hd : c.needsDrop = true)
    (h : RepB c v xs) (n : Nat) (w : W) (ho : Own ins xs w.evs held) :
    ∃ lk, Own ins [] (intoIterNthOp c v n w).1.evs (lk ++ held) ∧ (c.dropPanicAt = none → lk = []) := by
  obtain ⟨lk, hown, hlk⟩ := intoIterNthOp_own_leak hd h n w ho
  exact ⟨lk, hown, fun hnp => Classical.byContradiction fun hne => (hlk hne).2.1 hnp⟩

theorem intoIterNthOp_result {c : Cfg} {v : VS} {xs : List Elem} (h : RepB c v xs) (n : Nat) (w : W)
    (hnp : c.dropPanicAt = none) :
    (intoIterNthOp c v n w).2 = some (if h' : n < xs.length then [xs[n]] else []) ∧
      (intoIterNthOp c v n w).1.bad = w.bad := by
  obtain ⟨w', r, hrun, hb, _, hcase⟩ := intoIterNthOp_spec h n w
  rw [hrun]
  refine ⟨?_, hb⟩
  rcases hcase with ⟨_, _, _, hp, _⟩ | ⟨hn, _, _, hr, hrp, _⟩ | ⟨hle, hr, _⟩
  · exact absurd hnp hp
  · rcases hr with hr | hr
    · exact absurd hnp (hrp hr)
    · simp [hr, hn]
  · have : ¬ n < xs.length := by omega
    simp [hr, this]

theorem intoIterNthOp_noUB {c : Cfg} {v : VS} {xs : List Elem} (h : RepB c v xs) (n : Nat) (w : W) :
    (intoIterNthOp c v n w).1.bad = w.bad := by
  obtain ⟨w', r, hrun, hb, _⟩ := intoIterNthOp_spec h n w
  rw [hrun]; exact hb

theorem intoIterNthOp_result_any {c : Cfg} {v : VS} {xs : List Elem} (h : RepB c v xs) (n : Nat) (w : W) :
    (intoIterNthOp c v n w).2 = none ∨
      (intoIterNthOp c v n w).2 = some (if h' : n < xs.length then [xs[n]] else []) := by
  obtain ⟨w', r, hrun, _, _, hcase⟩ := intoIterNthOp_spec h n w
  rw [hrun]
  rcases hcase with ⟨_, _, hr, _, _⟩ | ⟨hn, _, _, hr, _, _⟩ | ⟨hle, hr, _⟩
  · exact Or.inl hr
  · rcases hr with hr | hr
    · exact Or.inl hr
    · right; simp [hr, hn]
  · have : ¬ n < xs.length := by omega
    right; simp [hr, this]

end Bump.V

#print axioms Bump.V.dropEach_past
#print axioms Bump.V.dropEach_panicked
#print axioms Bump.V.intoIterNthOp_spec
#print axioms Bump.V.intoIterNthOp_own
#print axioms Bump.V.intoIterNthOp_own_leak
#print axioms Bump.V.intoIterNthOp_result
#print axioms Bump.V.intoIterNthOp_noUB
#print axioms Bump.V.intoIterNthOp_result_any
