import BumpVerif.Model.Borrow
/-!
# Lemmas about the loan-liveness checker (`Model/Borrow.lean`)

Rejection is stable under arbitrary context: once a variable holds a loan on the arena, a later
statement whose access conflicts with the loan, followed by a later use of the variable, makes
every program containing that pattern fail, whatever surrounds it.
-/
namespace Bump.Borrow
open Bump.Sig

def Rej (t : Sigs) (σ : State) (p : List Stmt) : Prop := (go t σ p).isSome = true

theorem rej_cons {t : Sigs} {σ : State} {s : Stmt} {rest : List Stmt}
    (h : check t σ s rest = none → Rej t (update t σ s) rest) : Rej t σ (s :: rest) := by
  unfold Rej
  rw [go]
  split
  · rfl
  · next hc => exact h hc

theorem go_cons {t : Sigs} {σ : State} {s : Stmt} {rest : List Stmt} (h : check t σ s rest = none) :
    go t σ (s :: rest) = go t (update t σ s) rest := by
  rw [go, h]

theorem rej_of_check {t : Sigs} {σ : State} {s : Stmt} {rest : List Stmt}
    (h : (check t σ s rest).isSome = true) : Rej t σ (s :: rest) := by
  apply rej_cons
  intro hc
  rw [hc] at h
  cases h

theorem rej_append {t : Sigs} {q : List Stmt} (h : ∀ σ, Rej t σ q) :
    ∀ (pre : List Stmt) (σ : State), Rej t σ (pre ++ q)
  | [], σ => h σ
  | s :: pre, σ => by
    rw [List.cons_append]
    exact rej_cons (fun _ => rej_append h pre _)

theorem accepts_false_of_rej {t : Sigs} {p : Program} (h : Rej t State.init p) :
    accepts t p = false := by
  unfold accepts run
  unfold Rej at h
  cases hg : go t State.init p with
  | none => rw [hg] at h; cases h
  | some e => rfl

theorem accepts_of_go_none {t : Sigs} {p : Program} (h : go t State.init p = none) :
    accepts t p = true := by
  unfold accepts run
  rw [h]
  rfl

theorem find_cons_ne {vars : List (Var × Info)} {x y : Var} {i : Info} (h : y ≠ x) :
    find ((y, i) :: vars) x = find vars x := by
  simp [find, h]

theorem find_cons_eq {vars : List (Var × Info)} {x : Var} {i : Info} :
    find ((x, i) :: vars) x = some i := by
  simp [find]

theorem find_markMoved (v x : Var) (vars : List (Var × Info)) :
    find (markMoved v vars) x =
      (find vars x).map (fun i => if x = v then { i with moved := true } else i) := by
  induction vars with
  | nil => rfl
  | cons e rest ih =>
    obtain ⟨y, i⟩ := e
    rw [markMoved, ← apply_ite (Prod.mk y)]
    by_cases hyx : y = x
    · subst hyx
      rw [find_cons_eq, find_cons_eq]
      rfl
    · rw [find_cons_ne hyx, find_cons_ne hyx]
      exact ih

theorem mem_markMoved {v : Var} {p : Var × Info} {vars : List (Var × Info)}
    (h : p ∈ markMoved v vars) : ∃ q ∈ vars, p.1 = q.1 ∧ p.2.loan = q.2.loan ∧ p.2.src = q.2.src := by
  induction vars with
  | nil => cases h
  | cons e rest ih =>
    unfold markMoved at h
    cases h with
    | head =>
      refine ⟨e, List.mem_cons_self, ?_⟩
      split <;> exact ⟨rfl, rfl, rfl⟩
    | tail _ h =>
      obtain ⟨q, hq, hh⟩ := ih h
      exact ⟨q, List.mem_cons_of_mem _ hq, hh⟩

theorem mem_of_find {x : Var} {i : Info} {vars : List (Var × Info)} (h : find vars x = some i) :
    (x, i) ∈ vars := by
  induction vars with
  | nil => cases h
  | cons e rest ih =>
    obtain ⟨y, j⟩ := e
    by_cases hyx : y = x
    · subst hyx
      rw [find_cons_eq] at h
      cases h
      exact List.mem_cons_self
    · rw [find_cons_ne hyx] at h
      exact List.mem_cons_of_mem _ (ih h)

theorem check_eq_none {t : Sigs} {σ : State} {s : Stmt} {rest : List Stmt} :
    check t σ s rest = none ↔
      wf t σ s = none ∧ other σ rest s = none ∧ ∀ a, access t s = some a → arenaErr σ rest a = none := by
  unfold check
  cases wf t σ s with
  | some e => exact ⟨nofun, fun h => nomatch h.1⟩
  | none =>
    cases other σ rest s with
    | some e => exact ⟨nofun, fun h => nomatch h.2.1⟩
    | none =>
      cases access t s with
      | none => exact ⟨fun _ => ⟨rfl, rfl, nofun⟩, fun _ => rfl⟩
      | some a => exact ⟨fun h => ⟨rfl, rfl, fun _ ha => Option.some.inj ha ▸ h⟩, fun h => h.2.2 a rfl⟩

theorem check_none_access {t : Sigs} {σ : State} {s : Stmt} {rest : List Stmt} {a : Access}
    (h : check t σ s rest = none) (ha : access t s = some a) : arenaErr σ rest a = none :=
  (check_eq_none.mp h).2.2 a ha

theorem needFresh_none {σ : State} {x : Var} (h : needFresh σ x = none) : find σ.vars x = none := by
  unfold needFresh at h
  cases hf : find σ.vars x with
  | none => rfl
  | some i => rw [hf] at h; cases h

theorem needVar_none {σ : State} {x : Var} (h : needVar σ x = none) :
    ∃ i, find σ.vars x = some i ∧ i.moved = false := by
  unfold needVar at h
  cases hf : find σ.vars x with
  | none => rw [hf] at h; cases h
  | some i =>
    rw [hf] at h
    refine ⟨i, rfl, ?_⟩
    cases hm : i.moved with
    | false => rfl
    | true => simp [hm] at h

theorem needVar_moved {σ : State} {x : Var} {i : Info} (hf : find σ.vars x = some i)
    (hm : i.moved = true) : needVar σ x = some .E0382 := by
  unfold needVar
  rw [hf]
  simp [hm]

theorem ne_of_fresh {σ : State} {x y : Var} {i : Info} (hx : find σ.vars x = some i)
    (hy : needFresh σ y = none) : y ≠ x := by
  intro h
  subst h
  rw [needFresh_none hy] at hx
  cases hx

theorem wf_let {t : Sigs} {σ : State} {x : Var} {m : MId} {src : Option Var}
    (h : wf t σ (.call (some x) m src) = none) : ∃ sg, lookup t m = some sg ∧ needFresh σ x = none := by
  simp only [wf] at h
  cases hl : lookup t m with
  | none => rw [hl] at h; cases h
  | some sg =>
    rw [hl] at h
    cases hn : needFresh σ x with
    | none => exact ⟨sg, rfl, rfl⟩
    | some e => rw [hn] at h; cases h

theorem wf_derive {t : Sigs} {σ : State} {x y : Var} {m : MId} (h : wf t σ (.derive y m x) = none) :
    ∃ sg, lookup t m = some sg ∧ needFresh σ y = none ∧ y ≠ x ∧ needVar σ x = none := by
  simp only [wf] at h
  cases hl : lookup t m with
  | none => rw [hl] at h; cases h
  | some sg =>
    rw [hl] at h
    cases hn : needFresh σ y with
    | some e => rw [hn] at h; cases h
    | none =>
      rw [hn] at h
      by_cases hyx : y = x
      · rw [if_pos hyx] at h; cases h
      · exact ⟨sg, rfl, rfl, hyx, (if_neg hyx).symm.trans h⟩

/-- the statement moves `x` away (explicit drop / move, or a by-value method call on it) -/
def kills (t : Sigs) (x : Var) : Stmt → Bool
  | .dropVar v => v == x
  | .derive _ m v => v == x && (match lookup t m with | some s => s.recv == .val | none => false)
  | _ => false

theorem update_find {t : Sigs} {σ : State} {s : Stmt} {rest : List Stmt} {x : Var} {i : Info}
    (hc : check t σ s rest = none) (hx : find σ.vars x = some i) :
    find (update t σ s).vars x = some (if kills t x s = true then { i with moved := true } else i) := by
  have hw := (check_eq_none.mp hc).1
  cases s with
  | call y m src =>
    cases y with
    | none => exact hx
    | some y =>
      obtain ⟨sg, hl, hn⟩ := wf_let hw
      simp only [update, hl, bind]
      exact (find_cons_ne (ne_of_fresh hx hn)).trans hx
  | derive y m v =>
    obtain ⟨sg, hl, hn, _, hv⟩ := wf_derive hw
    obtain ⟨iv, hv, _⟩ := needVar_none hv
    simp only [update, kills, hl, hv, bind]
    rw [find_cons_ne (ne_of_fresh hx hn)]
    by_cases hr : (sg.recv == Recv.val) = true
    · simp only [hr, if_true, find_markMoved, hx, Option.map_some, Bool.and_true, beq_iff_eq, @eq_comm _ x v]
    · simp only [hr, hx, Bool.and_false, Bool.false_eq_true, if_false]
  | use v => exact hx
  | dropVar v =>
    simp only [update, kills, find_markMoved, hx, Option.map_some, beq_iff_eq, @eq_comm _ x v]
  | newSrc s => exact (find_cons_ne (ne_of_fresh hx hw)).trans hx
  | moveArena => exact hx
  | endArena how => exact hx
  | ret v => exact hx

/-- all a statement can do to a bound variable is mark it moved (`update_find`) -/
theorem rej_behind_prefix {t : Sigs} {x : Var} {P : Info → Prop} {q : List Stmt} (mid : List Stmt)
    (hP : ∀ s ∈ mid, ∀ i, P i → P (if kills t x s = true then { i with moved := true } else i))
    (h : ∀ (σ : State) (i : Info), find σ.vars x = some i → P i → Rej t σ q) :
    ∀ (σ : State) (i : Info), find σ.vars x = some i → P i → Rej t σ (mid ++ q) := by
  induction mid with
  | nil => exact h
  | cons s mid ih =>
    intro σ i hf hp
    rw [List.cons_append]
    apply rej_cons
    intro hck
    exact ih (fun s' hs' => hP s' (List.mem_cons_of_mem _ hs')) _ _ (update_find hck hf)
      (hP s List.mem_cons_self i hp)

theorem rej_behind_prefix_of_stable {t : Sigs} {x : Var} {P : Info → Prop} {q : List Stmt}
    (hP : ∀ i, P i → P { i with moved := true })
    (h : ∀ (σ : State) (i : Info), find σ.vars x = some i → P i → Rej t σ q) (mid : List Stmt) :
    ∀ (σ : State) (i : Info), find σ.vars x = some i → P i → Rej t σ (mid ++ q) :=
  rej_behind_prefix mid (fun s _ i hp => by
    split
    · exact hP i hp
    · exact hp) h

theorem moved_use_rej {t : Sigs} {x : Var} {l' : List Stmt} :
    ∀ (mid : List Stmt) (σ : State) (i : Info), find σ.vars x = some i → i.moved = true →
      Rej t σ (mid ++ .use x :: l') :=
  rej_behind_prefix_of_stable (fun _ _ => rfl) fun σ i hf hm => by
    apply rej_of_check
    unfold check
    simp only [wf, needVar_moved hf hm]
    rfl

theorem usedLater_append_use (x : Var) (post post' : List Stmt) :
    usedLater x (post ++ .use x :: post') = true := by
  unfold usedLater
  rw [List.any_append, List.any_cons]
  simp [mentions]

theorem liveLoan_of_find {x : Var} {i : Info} {k : LoanKind} {rest : List Stmt} {g : Bool} :
    ∀ {vars : List (Var × Info)}, find vars x = some i → i.loan = some k → i.live x rest g = true →
      liveLoan vars rest k g = true := by
  intro vars hf hl hlive
  have hmem := mem_of_find hf
  unfold liveLoan
  rw [List.any_eq_true]
  exact ⟨(x, i), hmem, by simp [hl, hlive]⟩

def conflicts : Access → LoanKind → Bool
  | .shared, .shared => false
  | _, _ => true

theorem arenaErr_conflict {σ : State} {rest : List Stmt} {a : Access} {k : LoanKind}
    (hl : liveLoan σ.vars rest k a.glueCounts = true) (hc : conflicts a k = true) :
    (arenaErr σ rest a).isSome = true := by
  unfold arenaErr
  cases hal : σ.arenaAlive with
  | false => rfl
  | true =>
    cases a <;> cases k <;> simp_all [conflicts] <;> (split <;> simp)

theorem check_conflict {t : Sigs} {σ : State} {c : Stmt} {rest : List Stmt} {a : Access}
    {k : LoanKind} (ha : access t c = some a) (hc : conflicts a k = true)
    (hl : liveLoan σ.vars rest k a.glueCounts = true) : (check t σ c rest).isSome = true := by
  unfold check
  split
  · rfl
  · split
    · rfl
    · rw [ha]
      exact arenaErr_conflict hl hc

theorem conflict_rej {t : Sigs} {x : Var} {c : Stmt} {a : Access} {k : LoanKind}
    {post post' : List Stmt} (ha : access t c = some a) (hc : conflicts a k = true) :
    ∀ (mid : List Stmt) (σ : State) (i : Info), find σ.vars x = some i → i.loan = some k →
      Rej t σ (mid ++ c :: (post ++ .use x :: post')) :=
  rej_behind_prefix_of_stable (fun _ hl => hl) fun σ i hf hl => by
    cases hm : i.moved with
    | true => exact moved_use_rej (c :: post) σ i hf hm
    | false =>
      apply rej_of_check
      apply check_conflict ha hc
      apply liveLoan_of_find hf hl
      unfold Info.live
      rw [hm, usedLater_append_use]
      simp

def Holder (t : Sigs) (m : MId) (k : LoanKind) : Prop :=
  ∃ sg, lookup t m = some sg ∧ loanOf sg = some k

theorem rej_after_let {t : Sigs} {m : MId} {sg : MethodSig} (hl : lookup t m = some sg) {x : Var}
    {src : Option Var} {q : List Stmt}
    (h : ∀ σ, find σ.vars x = some ⟨loanOf sg, if sg.retOther then src else none, glueOf t sg, false⟩ →
      Rej t σ q) (pre : List Stmt) :
    accepts t (pre ++ .call (some x) m src :: q) = false := by
  apply accepts_false_of_rej
  apply rej_append
  intro σ
  apply rej_cons
  intro _
  apply h
  simp only [update, hl, bind]
  exact find_cons_eq

theorem holder_conflict_rej {t : Sigs} {m : MId} {k : LoanKind} {c : Stmt} {a : Access}
    (hm : Holder t m k) (ha : access t c = some a) (hc : conflicts a k = true)
    (pre mid post post' : List Stmt) (x : Var) (src : Option Var) :
    accepts t (pre ++ .call (some x) m src :: (mid ++ c :: (post ++ .use x :: post'))) = false := by
  obtain ⟨sg, hl, hk⟩ := hm
  exact rej_after_let hl (fun σ hf => conflict_rej ha hc mid σ _ hf hk) pre

/-- the result of `d` applied to a value obtained from the arena still carries the arena -/
def Carrier (t : Sigs) (d : MId) : Prop :=
  ∃ sg, lookup t d = some sg ∧ (sg.retRecv || sg.retArena) = true

theorem derive_bound {t : Sigs} {σ : State} {d : MId} {x y : Var} {i : Info}
    (hd : Carrier t d) (hx : find σ.vars x = some i) :
    ∃ j, find (update t σ (.derive y d x)).vars y = some j ∧ j.loan = i.loan := by
  obtain ⟨sg, hl, hcar⟩ := hd
  simp only [update, hl, hx, bind, hcar, if_true]
  exact ⟨_, find_cons_eq, rfl⟩

theorem derived_conflict_rej {t : Sigs} {m d : MId} {k : LoanKind} {c : Stmt} {a : Access}
    (hm : Holder t m k) (hd : Carrier t d) (ha : access t c = some a) (hc : conflicts a k = true)
    (pre mid1 mid2 post post' : List Stmt) (x y : Var) (src : Option Var) :
    accepts t (pre ++ .call (some x) m src ::
      (mid1 ++ .derive y d x :: (mid2 ++ c :: (post ++ .use y :: post')))) = false := by
  obtain ⟨sg, hl, hk⟩ := hm
  refine rej_after_let hl (fun σ hf => ?_) pre
  refine rej_behind_prefix_of_stable (P := fun i => i.loan = some k) (fun _ hl => hl) (fun σ i hf hl => ?_) mid1 σ _ hf hk
  apply rej_cons
  intro _
  obtain ⟨j, hj, hjl⟩ := derive_bound (y := y) hd hf
  exact conflict_rej ha hc mid2 _ j hj (hjl.trans hl)

def GlueHolder (t : Sigs) (m : MId) (k : LoanKind) : Prop :=
  ∃ sg, lookup t m = some sg ∧ loanOf sg = some k ∧ glueOf t sg = true

theorem GlueHolder.holder {t : Sigs} {m : MId} {k : LoanKind} (h : GlueHolder t m k) :
    Holder t m k := by
  obtain ⟨sg, hl, hk, _⟩ := h
  exact ⟨sg, hl, hk⟩

/-- a container obtained from the arena and not dropped or consumed before a conflicting access
(other than the end of the arena's own block, where an unused container is block-local):
rejected even without a later use (its destructor runs at the end of the scope). -/
theorem glue_conflict_rej {t : Sigs} {m : MId} {k : LoanKind} {c : Stmt} {a : Access}
    (hm : GlueHolder t m k) (ha : access t c = some a) (hc : conflicts a k = true)
    (hgc : a.glueCounts = true) (pre mid post : List Stmt) (x : Var) (src : Option Var)
    (hnk : mid.all (fun s => !kills t x s) = true) :
    accepts t (pre ++ .call (some x) m src :: (mid ++ c :: post)) = false := by
  obtain ⟨sg, hl, hk, hgl⟩ := hm
  refine rej_after_let hl (fun σ hf => ?_) pre
  -- no statement of `mid` moves `x` away, so it is still a live, unmoved holder with drop glue at `c`
  refine rej_behind_prefix (P := fun i => i.loan = some k ∧ i.glue = true ∧ i.moved = false) mid
    (fun s hs i hp => ?_) (fun σ i hf ⟨hl, hg, hm⟩ => ?_) σ _ hf ⟨hk, hgl, rfl⟩
  · rw [(Bool.not_eq_true' _).mp (List.all_eq_true.mp hnk s hs)]
    exact hp
  · apply rej_of_check
    apply check_conflict ha hc
    apply liveLoan_of_find hf hl
    unfold Info.live
    rw [hm, hg, hgc]
    rfl

theorem ret_rej {t : Sigs} {m : MId} {k : LoanKind} (hm : Holder t m k)
    (pre mid post : List Stmt) (x : Var) (src : Option Var) :
    accepts t (pre ++ .call (some x) m src :: (mid ++ .ret x :: post)) = false := by
  obtain ⟨sg, hl, hk⟩ := hm
  refine rej_after_let hl (fun σ hf => ?_) pre
  refine rej_behind_prefix_of_stable (P := fun i => i.loan = some k) (fun _ hl => hl) (fun σ i hf hl => ?_) mid σ _ hf hk
  apply rej_of_check
  unfold check
  split
  · rfl
  · simp only [other, hf, hl, Option.isSome_some, Bool.true_or, if_true]

end Bump.Borrow
