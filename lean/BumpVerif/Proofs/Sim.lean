import BumpVerif.Model.Rs
import BumpVerif.Proofs.Bind
/-! The translated bodies (`Gen/Fn*.lean`) and the hand-written model name their failed assertions differently, so they are
compared by `Outcome.sim` (pure functions) and `simS` (state-passing ones).  Both are reflexive, transitive and congruences for the
sequencing operators; a proof about a translated body walks it once with `simS_bind`, handing each callee's own theorem to it. -/
namespace Bump
open Rs

def Outcome.sim {α : Type} : Outcome α → Outcome α → Prop
  | .bad _, .bad _ => True
  | a, b => a = b

theorem Outcome.sim_refl {α : Type} (a : Outcome α) : Outcome.sim a a := by
  cases a <;> simp [Outcome.sim]

theorem Outcome.sim_of_eq {α : Type} {a b : Outcome α} (h : a = b) : Outcome.sim a b := h ▸ Outcome.sim_refl a

theorem Outcome.sim_bad {α : Type} (w w' : String) : Outcome.sim (.bad w : Outcome α) (.bad w') := trivial

theorem Outcome.sim_iff {α : Type} {a b : Outcome α} :
    Outcome.sim a b ↔ (∃ w w', a = .bad w ∧ b = .bad w') ∨ a = b := by
  cases a with
  | bad w => cases b <;> simp [Outcome.sim]
  | _ => exact ⟨.inr, fun h => h.elim (fun ⟨_, _, h, _⟩ => nomatch h) id⟩

theorem Outcome.sim_trans {α : Type} {a b c : Outcome α} (h1 : Outcome.sim a b) (h2 : Outcome.sim b c) : Outcome.sim a c := by
  rcases Outcome.sim_iff.1 h1 with ⟨w, w', rfl, rfl⟩ | rfl
  · rcases Outcome.sim_iff.1 h2 with ⟨_, w'', _, rfl⟩ | rfl <;> trivial
  · exact h2

theorem Outcome.sim_reify {α : Type} {a b : Outcome α} (h : Outcome.sim a b) : Outcome.sim (reify a) (reify b) := by
  rcases Outcome.sim_iff.1 h with ⟨w, w', rfl, rfl⟩ | rfl
  · trivial
  · exact Outcome.sim_refl _

theorem reify_eq_ok_some {α : Type} {o : Outcome α} {a : α} (h : reify o = .ok (some a)) : o = .ok a := by
  cases o <;> cases h; rfl

def simS {α : Type} (x y : St × Outcome α) : Prop := x.1 = y.1 ∧ Outcome.sim x.2 y.2

theorem simS_refl {α : Type} (x : St × Outcome α) : simS x x := ⟨rfl, Outcome.sim_refl _⟩

theorem simS_of_eq {α : Type} {x y : St × Outcome α} (h : x = y) : simS x y := h ▸ simS_refl x

theorem simS_pure {α : Type} (s : St) {a b : Outcome α} (h : Outcome.sim a b) : simS (s, a) (s, b) := ⟨rfl, h⟩

theorem simS_bad {α : Type} (s : St) (w w' : String) : simS (s, (.bad w : Outcome α)) (s, .bad w') := ⟨rfl, trivial⟩

theorem simS_trans {α : Type} {x y z : St × Outcome α} (h1 : simS x y) (h2 : simS y z) : simS x z :=
  ⟨h1.1.trans h2.1, Outcome.sim_trans h1.2 h2.2⟩

theorem simS_iff {α : Type} {x y : St × Outcome α} :
    simS x y ↔ (∃ s w w', x = (s, .bad w) ∧ y = (s, .bad w')) ∨ x = y := by
  obtain ⟨xs, xo⟩ := x; obtain ⟨ys, yo⟩ := y
  constructor
  · rintro ⟨h1, h2⟩
    simp only at h1 h2; subst h1
    rcases Outcome.sim_iff.1 h2 with ⟨w, w', rfl, rfl⟩ | rfl
    · exact .inl ⟨_, _, _, rfl, rfl⟩
    · exact .inr rfl
  · rintro (⟨s, w, w', h1, h2⟩ | h)
    · cases h1; cases h2; exact simS_bad _ _ _
    · exact simS_of_eq h

theorem simS_bind_of {α β : Type} {x y : St × Outcome α} {f g : St → α → St × Outcome β} (h : simS x y)
    (hfg : ∀ s a, y = (s, .ok a) → simS (f s a) (g s a)) : simS (bindO x f) (bindO y g) := by
  rcases simS_iff.1 h with ⟨s, w, w', rfl, rfl⟩ | rfl
  · exact simS_bad _ _ _
  · obtain ⟨s, o⟩ := x
    cases o <;> first | exact hfg _ _ rfl | exact simS_refl _

theorem simS_bind {α β : Type} {x y : St × Outcome α} {f g : St → α → St × Outcome β} (h : simS x y)
    (hfg : ∀ s a, simS (f s a) (g s a)) : simS (bindO x f) (bindO y g) := simS_bind_of h fun s a _ => hfg s a

theorem simS_pureO {α β : Type} {s : St} {a b : Outcome α} {f g : St → α → St × Outcome β} (h : Outcome.sim a b)
    (hfg : ∀ v, b = .ok v → simS (f s v) (g s v)) : simS (pureO s a f) (pureO s b g) :=
  simS_bind_of (simS_pure s h) fun _ _ e => by cases e; exact hfg _ rfl

/-- one assertion, which the translation tests positively and the model negatively; both continue where it holds -/
theorem simS_assert {α : Type} {c c' : Prop} [Decidable c] [Decidable c'] {x y : St × Outcome α} {s : St} {w w' : String}
    (hcc : c' ↔ ¬c) (h : c → simS x y) : simS (if c then x else (s, .bad w)) (if c' then (s, .bad w') else y) := by
  by_cases hc : c
  · rw [if_pos hc, if_neg (fun h' => hcc.1 h' hc)]; exact h hc
  · rw [if_neg hc, if_pos (hcc.2 hc)]; exact simS_bad _ _ _

/-- a translated assertion against a model that has failed already -/
theorem simS_assert_bad {α : Type} {c : Prop} [Decidable c] {x : St × Outcome α} {s : St} {w w' : String}
    (h : c → simS x (s, .bad w')) : simS (if c then x else (s, .bad w)) (s, .bad w') := by
  split
  · exact h ‹c›
  · exact simS_bad _ _ _

theorem simS_ite {α : Type} {c : Prop} [Decidable c] {x x' y y' : St × Outcome α} (h : c → simS x x') (h' : ¬c → simS y y') :
    simS (if c then x else y) (if c then x' else y') := by
  split
  · exact h ‹c›
  · exact h' ‹¬c›

theorem simS_bindO {α β : Type} {x y : St × Outcome α} (f : St → α → St × Outcome β) (h : simS x y) :
    simS (bindO x f) (bindO y f) := simS_bind h fun _ _ => simS_refl _

theorem simS_pureO_left {α β : Type} (s : St) {a b : Outcome α} (f : St → α → St × Outcome β) (h : Outcome.sim a b) :
    simS (pureO s a f) (pureO s b f) := simS_bindO f (simS_pure s h)

theorem simS_reify {α : Type} {x y : St × Outcome α} (h : simS x y) : simS (x.1, reify x.2) (y.1, reify y.2) :=
  ⟨h.1, Outcome.sim_reify h.2⟩

def mapOk {α β : Type} (f : α → β) (r : St × Outcome α) : St × Outcome β :=
  match r with
  | (s, .ok a) => (s, .ok (f a))
  | (s, .err) => (s, .err)
  | (s, .panic) => (s, .panic)
  | (s, .bad w) => (s, .bad w)
  | (s, .envBad) => (s, .envBad)

theorem mapOk_eq_bindO {α β : Type} (f : α → β) (r : St × Outcome α) : mapOk f r = bindO r fun s a => (s, .ok (f a)) := by
  obtain ⟨s, o⟩ := r; cases o <;> rfl

theorem simS_mapOk {α β : Type} (f : α → β) {x y : St × Outcome α} (h : simS x y) : simS (mapOk f x) (mapOk f y) := by
  rw [mapOk_eq_bindO, mapOk_eq_bindO]; exact simS_bindO _ h

theorem pureO_ok {α β : Type} (s : St) (a : α) (f : St → α → St × Outcome β) : pureO s (Outcome.ok a) f = f s a := rfl

/-- the trailing `Ok(x)` of a translated body -/
theorem bindO_pure {α : Type} (x : St × Outcome α) : bindO x (fun s a => (s, Outcome.ok a)) = x := by
  obtain ⟨s, o⟩ := x; cases o <;> rfl

/-- the same for a body that ends in `()` -/
theorem bindO_unit (x : St × Outcome Unit) : bindO x (fun s _ => (s, Outcome.ok ())) = x := bindO_pure x

/-- `simS_bind_of` when the model side is seen through `reifyS`, which only commutes with `bindO` when the first step
cannot itself end in `Err` -/
theorem simS_bind_reify {α β : Type} {x y : St × Outcome α} {f : St → α → St × Outcome (Option β)}
    {g : St → α → St × Outcome β} (h : simS x y) (hy : y.2 ≠ .err)
    (hfg : ∀ s a, y = (s, .ok a) → simS (f s a) ((g s a).1, reify (g s a).2)) :
    simS (bindO x f) ((bindO y g).1, reify (bindO y g).2) := by
  rcases simS_iff.1 h with ⟨s, w, w', rfl, rfl⟩ | rfl
  · exact simS_bad _ _ _
  · obtain ⟨s, o⟩ := x
    cases o <;> first | exact hfg _ _ rfl | exact absurd rfl hy | exact simS_refl _

/-- an allocation error becomes a panic (`oom()`, `unwrap_or_else`), nothing else changes -/
def errToPanic {α : Type} (r : St × Outcome α) : St × Outcome α :=
  match r with
  | (s, .err) => (s, .panic)
  | r => r

theorem simS_errToPanic {α : Type} {x y : St × Outcome α} (h : simS x y) : simS (errToPanic x) (errToPanic y) := by
  rcases simS_iff.1 h with ⟨s, w, w', rfl, rfl⟩ | rfl
  · exact simS_bad _ _ _
  · exact simS_refl _

/-! A `Result`-returning callee is translated as a value (`reifyS`) that the caller matches at once.  The continuation `k`
is whatever `match` the translator printed; what matters is what it does on `some` and on `none` (a lemma stated with a
`match` of its own would never apply: the unifier does not identify two matchers).  Both facts hold by `rfl` at every use. -/

/-- `callee(..)?` followed by more work -/
theorem bindO_reifyS {α β : Type} (f : St → St × Outcome α) (s : St) {k : St → Option α → St × Outcome β}
    (k' : St → α → St × Outcome β) (hs : ∀ s v, k s (some v) = k' s v := by intros; rfl)
    (hn : ∀ s, k s none = (s, Outcome.err) := by intros; rfl) : bindO (reifyS f s) k = bindO (f s) k' := by
  unfold reifyS
  rcases f s with ⟨t, _ | _ | _ | _ | _⟩
  · exact hs t _
  · exact hn t
  all_goals rfl

/-- `callee(..)` as the tail expression, or `callee(..)?` re-wrapped in `Ok` -/
theorem bindO_reifyS_err {α : Type} (f : St → St × Outcome α) (s : St) {k : St → Option α → St × Outcome α}
    (hs : ∀ s v, k s (some v) = (s, Outcome.ok v) := by intros; rfl)
    (hn : ∀ s, k s none = (s, Outcome.err) := by intros; rfl) : bindO (reifyS f s) k = f s :=
  (bindO_reifyS f s (fun s v => (s, Outcome.ok v)) hs hn).trans (bindO_pure _)

/-- `callee(..).unwrap_or_else(|_| oom())` -/
theorem bindO_reifyS_panic {α : Type} (f : St → St × Outcome α) (s : St) {k : St → Option α → St × Outcome α}
    (hs : ∀ s v, k s (some v) = (s, Outcome.ok v) := by intros; rfl)
    (hn : ∀ s, k s none = (s, Outcome.panic) := by intros; rfl) : bindO (reifyS f s) k = errToPanic (f s) := by
  unfold reifyS
  rcases f s with ⟨t, _ | _ | _ | _ | _⟩
  · exact hs t _
  · exact hn t
  all_goals rfl

/-- `callee(..).map(g)`: the value of a success is passed through `g` -/
theorem bindO_reifyS_map {α β : Type} (g : α → β) (f : St → St × Outcome α) (s : St) {k : St → Option α → St × Outcome β}
    (hs : ∀ s v, k s (some v) = (s, Outcome.ok (g v)) := by intros; rfl)
    (hn : ∀ s, k s none = (s, Outcome.err) := by intros; rfl) : bindO (reifyS f s) k = mapOk g (f s) :=
  (bindO_reifyS f s _ hs hn).trans (mapOk_eq_bindO g _).symm

theorem bind_reify_map {α β : Type} (g : α → β) (r : St × Outcome α) :
    bindO (r.1, reify r.2) (fun s o => match o with | some x => (s, Outcome.ok (g x)) | none => (s, Outcome.err)) = mapOk g r := by
  obtain ⟨s, o⟩ := r
  cases o <;> rfl

/-- both `bad`, or equal: where the source and the model order an assertion and a state change differently, the states
of the two failures are not compared -/
def simB {α : Type} (x y : St × Outcome α) : Prop := (x.2.isBad = true ∧ y.2.isBad = true) ∨ x = y

theorem simB_of_simS {α : Type} {x y : St × Outcome α} (h : simS x y) : simB x y := by
  rcases simS_iff.1 h with ⟨s, w, w', rfl, rfl⟩ | rfl
  · exact .inl ⟨rfl, rfl⟩
  · exact .inr rfl

theorem simB.eq_of_not_bad {α : Type} {x y : St × Outcome α} (h : simB x y) (hy : y.2.isBad = false) : x = y :=
  h.resolve_left fun hb => by rw [hb.2] at hy; cases hy

end Bump
