import BumpVerif.Proofs.StrProgram
/-!
# String part of C16: a panicking `retain` closure and UTF-8 validity (F6)

`RetainPanicSafe guard` is what C16 asks of `String::retain`, for the loop with (`guard = true`) or
without (`guard = false`, bumpalo 3.17.0) a drop guard that fixes the length on unwind.
Whether the source has the guard is regenerated from it on every run (`Gen.STR_RETAIN_GUARD`,
tools/extract_str.py).  With the guard (the tree as it is since fix c99527b) the full statement
holds: `C16_string_retain_valid`.  Without it the statement is FALSE (F6 of bumpalo 3.17.0):
`retain` moves kept bytes down while it runs and only shortens the vector at the very end; a
panic in the closure leaves `len` untouched over partly compacted bytes — the counterexample
below reproduces the bytes the unguarded loop leaves (C3 A9 A9 7A).  So the property holds
iff the guard is there, and removing the guard from the source flips the flag and breaks the
obligation `C16_string_retain_valid`.
-/
namespace Bump.Str

/-- C16 for `String::retain`, full strength -/
def RetainPanicSafe (guard : Bool) : Prop :=
  ∀ (l : List Char) (ans : Nat → Bool) (p : Option Nat) (r : RetainOut),
    retainWith guard (encode l) ans p = .ok r → Valid r.bytes

/-- the witness: "aéz", delete 'a', keep 'é', panic on 'z' -/
theorem F6_witness :
    retainWith false (encode ['a', 'é', 'z']) (ansOf [false, true, true]) (some 2)
      = .ok ⟨[0xC3, 0xA9, 0xA9, 0x7A], true, 3⟩ := by decide

theorem F6_witness_invalid : ¬ Valid [0xC3, 0xA9, 0xA9, 0x7A] := by decide

/-- **The full statement is false without the guard (F6).** -/
theorem C16_string_retain_valid_counterexample : ¬ RetainPanicSafe false := by
  intro h
  exact F6_witness_invalid (h _ _ _ _ F6_witness)

/-- **What holds without the guard**: no panic, a panic index that is never reached, or a panic
before any character was deleted leave the string valid (in the last case unchanged).  Missing
for the full statement: a panic after a deletion — there the crate leaves invalid bytes. -/
theorem C16_string_retain_valid_partial (l : List Char) (ans : Nat → Bool) (p : Option Nat) (r : RetainOut)
    (hsafe : ∀ k, p = some k → k < l.length → ∀ j, j < k → ans j = true)
    (h : retainWith false (encode l) ans p = .ok r) : Valid r.bytes := by
  suffices ∃ r', retainWith false (encode l) ans p = .ok r' ∧ Valid r'.bytes by
    obtain ⟨r', h', hv⟩ := this
    cases h'.symm.trans h; exact hv
  match p, hsafe with
  | none, _ => exact ⟨_, retainWith_of_no_panic false l ans none nofun, Valid_encode _⟩
  | some k, hsafe =>
    by_cases hk : k < l.length
    · exact ⟨_, retainWith_unguarded_panic_nodel l ans k hk (hsafe k rfl hk), Valid_encode _⟩
    · exact ⟨_, retainWith_of_no_panic false l ans (some k) (fun _ h => by cases h; omega), Valid_encode _⟩

/-- the hypotheses of the partial theorem are satisfiable, also with a panic -/
example : ∃ r, retainWith false (encode ['a', 'é', 'z']) (ansOf [true, true, false]) (some 2) = .ok r ∧ Valid r.bytes :=
  ⟨_, rfl, by decide⟩

theorem retainWith_guarded (l : List Char) (ans : Nat → Bool) (p : Option Nat) :
    ∃ r, retainWith true (encode l) ans p = .ok r ∧
      r.bytes = encode (retainSpec ans 0 (match p with | some k => l.take k | none => l)) := by
  match p with
  | none => exact ⟨_, retainWith_of_no_panic true l ans none nofun, rfl⟩
  | some k =>
    by_cases hk : k < l.length
    · exact ⟨_, retainWith_panic true l ans k hk, rfl⟩
    · exact ⟨_, retainWith_of_no_panic true l ans (some k) (fun _ h => by cases h; omega), by simp only; rw [List.take_of_length_le (by omega)]⟩

/-- **With the drop guard the full statement holds.** -/
theorem C16_string_retain_valid_guarded : RetainPanicSafe true := by
  intro l ans p r h
  obtain ⟨r', h', hb⟩ := retainWith_guarded l ans p
  cases h'.symm.trans h
  rw [hb]; exact Valid_encode _

/-- the property holds exactly when the guard is present; `retain` of the model is
`retainWith (Gen.STR_RETAIN_GUARD == 1)` with the flag regenerated from the source -/
theorem C16_string_retain_iff_guard (guard : Bool) : RetainPanicSafe guard ↔ guard = true := by
  cases guard
  · simp only [Bool.false_eq_true, iff_false]; exact C16_string_retain_valid_counterexample
  · simp only [iff_true]; exact C16_string_retain_valid_guarded

/-- the source has the unwind guard (flag regenerated from src/collections/string.rs) -/
theorem retain_guard_present : (Gen.STR_RETAIN_GUARD == 1) = true := by decide

/-- **C16, String part, full strength, for `String::retain` as the source has it**: whatever
the closure answers and wherever it panics, the string is valid UTF-8 afterwards. -/
theorem C16_string_retain_valid (l : List Char) (ans : Nat → Bool) (p : Option Nat) (r : RetainOut)
    (h : retain (encode l) ans p = .ok r) : Valid r.bytes := by
  unfold retain at h
  rw [retain_guard_present] at h
  exact C16_string_retain_valid_guarded l ans p r h

/-- … and `retain` always returns (no `bad` state): after a panic at call `p` the text is what
was kept among the first `p` characters. -/
theorem retain_total (l : List Char) (ans : Nat → Bool) (p : Option Nat) :
    ∃ r, retain (encode l) ans p = .ok r ∧ Valid r.bytes ∧
      r.bytes = encode (retainSpec ans 0 (match p with | some k => l.take k | none => l)) := by
  unfold retain
  rw [retain_guard_present]
  obtain ⟨r, h, hb⟩ := retainWith_guarded l ans p
  exact ⟨r, h, by rw [hb]; exact Valid_encode _, hb⟩


/-- a program step: any method of C14, or `retain` whose closure panics at call `p` (caught) -/
inductive POp where
  | op (o : SOp)
  | retainPanic (ans : Nat → Bool) (p : Nat)

def stepP (ovf : Bool) (s : Bytes) : POp → Option Bytes
  | .op o => stepOp ovf s o
  | .retainPanic ans p => match retain s ans (some p) with | .ok r => some r.bytes | _ => none

def runP (ovf : Bool) : Bytes → List POp → Option Bytes
  | s, [] => some s
  | s, op :: ops => match stepP ovf s op with | some s' => runP ovf s' ops | none => none

theorem stepP_valid (ovf : Bool) {s : Bytes} (hv : Valid s) (op : POp) : ∃ s', stepP ovf s op = some s' ∧ Valid s' := by
  cases op with
  | op o => exact stepOp_valid ovf hv o
  | retainPanic ans p =>
    obtain ⟨l, rfl⟩ := hv
    obtain ⟨r, hr, hvr, -⟩ := retain_total l ans (some p)
    exact ⟨r.bytes, by simp [stepP, hr], hvr⟩

/-- **keep using the string after the panic**: every program, with `retain` closures panicking at
arbitrary calls in between, keeps the string valid UTF-8 after every step and never reaches a
`bad` state (dropping it instead touches no text: `Vec<u8>` has no element destructors). -/
theorem C16_string_program_valid (ovf : Bool) (ops : List POp) : ∀ {s : Bytes}, Valid s →
    ∃ s', runP ovf s ops = some s' ∧ Valid s' :=
  run_valid (fun _ => rfl) (fun _ _ _ => rfl) (stepP_valid ovf) ops

example : runP false [] [.op (.fromStr ['a', 'é', 'z']), .retainPanic (ansOf [false, true, true]) 2, .op (.push 'q')]
    = some (encode ['é', 'q']) := by decide

/-- After a panic that leaves valid text, using the string further keeps it valid; dropping it
touches no text at all (`Vec<u8>` has no element destructors): both continuations of C16. -/
theorem retain_panic_then_push (l : List Char) (ans : Nat → Bool) (k : Nat) (hk : k < l.length)
    (hall : ∀ j, j < k → ans j = true) (c : Char) :
    ∃ r, retainWith false (encode l) ans (some k) = .ok r ∧ r.panicked = true ∧ Valid (push r.bytes c) := by
  refine ⟨_, retainWith_unguarded_panic_nodel l ans k hk hall, rfl, ?_⟩
  rw [push_encode]; exact Valid_encode _

end Bump.Str

#print axioms Bump.Str.C16_string_retain_valid
#print axioms Bump.Str.retain_total
#print axioms Bump.Str.C16_string_program_valid
#print axioms Bump.Str.C16_string_retain_valid_counterexample
#print axioms Bump.Str.C16_string_retain_valid_partial
#print axioms Bump.Str.C16_string_retain_valid_guarded
#print axioms Bump.Str.C16_string_retain_iff_guard
#print axioms Bump.Str.F6_witness
#print axioms Bump.Str.retain_panic_then_push
