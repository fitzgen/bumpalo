import BumpVerif.Model.ArenaExt
import BumpVerif.Proofs.Step
/-!
# `sliceTryFillIn`: `alloc_slice_try_fill_with` whose closure allocates in the arena

Everything here is a composition of the lemmas about the ingredients (`alloc_cases`,
`runInner_spec`, `dealloc_live_mid`).  One case analysis
(`sliceTryFillIn_main`) yields a bundle (`FillInPost`); the other statements are projections.
-/
namespace Bump
open Gen

theorem keptBlocks_nil (inner : List Inner) : keptBlocks inner [] = [] := by
  cases inner with
  | nil => rfl
  | cons i is => cases i <;> rfl

/-- how the live set changes with `sliceTryFillIn` and its result (the analogue of `liveAfter` for `.atw`) -/
def liveAfterFillIn (live : List Block) (esz n : Nat) (inner : List Inner) : Res → List Block
  | .ptrIn p ps => live ++ [⟨p, esz * n⟩] ++ keptBlocks inner ps
  | .ierr ps => live ++ keptBlocks inner ps
  | _ => live

def OnlyMallocs (evs : List Ev) : Prop := ∀ e ∈ evs, ∃ sz al r, e = .malloc sz al r

theorem AllRefused.onlyMallocs {refs : List Ev} (h : AllRefused refs) : OnlyMallocs refs := by
  intro e he
  obtain ⟨sz, al, h1⟩ := h e he
  exact ⟨sz, al, none, h1⟩

theorem LedgerStep.onlyMallocs {s s' : St} (h : LedgerStep s s') :
    ∃ ms, s'.evs = s.evs ++ ms ∧ OnlyMallocs ms := by
  induction h with
  | refl s => exact ⟨[], by simp, by intro e he; cases he⟩
  | refused refs hr he hk => exact ⟨refs, he, hr.onlyMallocs⟩
  | acquired refs c hr he hk =>
    refine ⟨refs ++ [.malloc c.size c.align (some c.data)], by rw [he, List.append_assoc], ?_⟩
    intro e he'
    rcases List.mem_append.mp he' with h1 | h1
    · exact hr.onlyMallocs e h1
    · simp only [List.mem_singleton] at h1
      exact ⟨_, _, _, h1⟩
  | trans _ _ ih1 ih2 =>
    obtain ⟨m1, e1, o1⟩ := ih1
    obtain ⟨m2, e2, o2⟩ := ih2
    refine ⟨m1 ++ m2, by rw [e2, e1, List.append_assoc], ?_⟩
    intro e he'
    rcases List.mem_append.mp he' with h1 | h1
    · exact o1 e h1
    · exact o2 e h1

/-- the closure's arena traffic as `sliceTryFillIn` performs it (only when the closure is called
at all, i.e. `n > 0`) -/
theorem fillInner_spec {E} (hE : EnvOK E) (n : Nat) (inner : List Inner) (s : St) (live : List Block)
    (inv : LiveInv E ⟨s, live⟩) (hin : ∀ i ∈ inner, InnerValid i) :
    (if n > 0 then runInner E inner s [] else (s, Outcome.ok [])).2 = .envBad ∨
    ∃ ps, (if n > 0 then runInner E inner s [] else (s, Outcome.ok [])).2 = .ok ps ∧
      LiveInv E ⟨(if n > 0 then runInner E inner s [] else (s, Outcome.ok [])).1, live ++ keptBlocks inner ps⟩ ∧
      Quiet s (if n > 0 then runInner E inner s [] else (s, Outcome.ok [])).1 := by
  split
  · rcases runInner_spec hE inner s live [] inv hin with h | ⟨ps, h, l, q⟩
    · exact .inl h
    · exact .inr ⟨ps, h, l, q⟩
  · exact .inr ⟨[], rfl, by rw [keptBlocks_nil, List.append_nil]; exact inv, .refl s⟩

structure FillInPost (E : Nat) (esz n : Nat) (errat : Option Nat) (inner : List Inner) (s : St)
    (live : List Block) (r : St × Res) : Prop where
  live : LiveInv E ⟨r.1, liveAfterFillIn live esz n inner r.2⟩
  ledger : LedgerStep s r.1
  mem : r.1.mem = s.mem
  persist : Persist s.a r.1.a
  /-- result shape: out-of-memory / capacity overflow (arena unchanged), or the closure's error at
  `i < n` is handed back, or the slice is returned -/
  shape : (r.2 = .panic ∧ r.1.a = s.a) ∨
    ((∃ i, errat = some i ∧ i < n) ∧ ∃ ps, r.2 = .ierr ps) ∨
    ((∀ i, errat = some i → ¬ i < n) ∧ ∃ p ps, r.2 = .ptrIn p ps)

/-- The analogue of `sysStep_post` for the composite operation. -/
theorem sliceTryFillIn_main {E esz eal n} (hE : EnvOK E) (errat : Option Nat) (inner : List Inner) (s : St)
    (live : List Block) (inv : LiveInv E ⟨s, live⟩) (hA : IsPow2 eal) (heal : eal ≤ 2 ^ 63)
    (hin : ∀ i ∈ inner, InnerValid i) :
    (∀ w, (sliceTryFillIn E esz eal n errat inner s).2 ≠ .bad w) ∧
    ((sliceTryFillIn E esz eal n errat inner s).2 ≠ .envBad →
      FillInPost E esz n errat inner s live (sliceTryFillIn E esz eal n errat inner s)) := by
  unfold sliceTryFillIn
  cases hl : arrayLayout esz eal n with
  | none => exact ⟨fun _ => nofun, fun _ => ⟨inv, .refl s, rfl, .refl _, .inl ⟨rfl, rfl⟩⟩⟩
  | some total =>
    obtain ⟨rfl, hlay⟩ := arrayLayout_some heal hl
    have sp := allocLayout_spec (sz := esz * n) (al := eal) s hE inv.wf hA hlay
    -- `alloc_layout` never returns `Err`
    have hnerr := (allocLayout_eq (E := E) (sz := esz * n) (al := eal) s).2.2.2.1
    simp only
    generalize allocLayout E (esz * n) eal s = r at sp hnerr
    obtain ⟨s1, o1⟩ := r
    rcases alloc_cases hE inv sp with rfl | ⟨rfl | rfl, l, q⟩ | ⟨p, rfl, _, hal, l1, q1⟩
    · exact ⟨fun _ => nofun, fun h => absurd rfl h⟩
    · exact absurd rfl hnerr
    · exact ⟨fun _ => nofun, fun _ => ⟨l, q.ledger, q.mem, q.persist, .inl ⟨rfl, (sp.fail (.inr rfl)).1⟩⟩⟩
    · have fi := fillInner_spec hE n inner s1 _ l1 hin
      simp only [bindO_ok]
      generalize (if n > 0 then runInner E inner s1 [] else (s1, Outcome.ok [])) = r2 at fi
      obtain ⟨s2, o2⟩ := r2
      rcases fi with rfl | ⟨ps, rfl, l2, q2⟩
      · exact ⟨fun _ => nofun, fun h => absurd rfl h⟩
      · have q := q1.trans q2
        simp only [bindO_ok]
        have hok : (∀ i, errat = some i → ¬ i < n) → FillInPost E esz n errat inner s live (s2, .ptrIn p ps) :=
          fun h => ⟨l2, q.ledger, q.mem, q.persist, .inr (.inr ⟨h, p, ps, rfl⟩)⟩
        cases errat with
        | none => exact ⟨fun _ => nofun, fun _ => hok nofun⟩
        | some i =>
          simp only
          by_cases hi : i < n
          · -- the closure failed: the slice goes back, the kept blocks stay
            rw [List.append_assoc] at l2
            obtain ⟨hd, l3⟩ := dealloc_live_mid hE l2 hA hal
            have q3 := q.trans (dealloc_quiet E p (esz * n) s2)
            simp only [hi, ↓reduceIte, bindO_of_ok hd, Res.ofOutcome, id]
            exact ⟨fun _ => nofun, fun _ => ⟨l3, q3.ledger, q3.mem, q3.persist, .inr (.inl ⟨⟨i, rfl, hi⟩, ps, rfl⟩)⟩⟩
          · simp only [hi, ↓reduceIte]
            exact ⟨fun _ => nofun, fun _ => hok fun j hj => by cases hj; exact hi⟩

theorem sliceTryFillIn_wf {E esz eal n} (hE : EnvOK E) {s : St} (h : ArenaWF E s.a) (errat : Option Nat)
    (inner : List Inner) (hA : IsPow2 eal) (heal : eal ≤ 2 ^ 63) (hin : ∀ i ∈ inner, InnerValid i)
    (hne : (sliceTryFillIn E esz eal n errat inner s).2 ≠ .envBad) :
    ArenaWF E (sliceTryFillIn E esz eal n errat inner s).1.a :=
  ((sliceTryFillIn_main hE errat inner s [] (init_live s h) hA heal hin).2 hne).live.wf

theorem sliceTryFillIn_nobad {E esz eal n} (hE : EnvOK E) {s : St} (h : ArenaWF E s.a) (errat : Option Nat)
    (inner : List Inner) (hA : IsPow2 eal) (heal : eal ≤ 2 ^ 63) (hin : ∀ i ∈ inner, InnerValid i) :
    ∀ w, (sliceTryFillIn E esz eal n errat inner s).2 ≠ .bad w :=
  (sliceTryFillIn_main hE errat inner s [] (init_live s h) hA heal hin).1

theorem sliceTryFillIn_ledgerStep {E esz eal n} (hE : EnvOK E) {s : St} (h : ArenaWF E s.a) (errat : Option Nat)
    (inner : List Inner) (hA : IsPow2 eal) (heal : eal ≤ 2 ^ 63) (hin : ∀ i ∈ inner, InnerValid i)
    (hne : (sliceTryFillIn E esz eal n errat inner s).2 ≠ .envBad) :
    LedgerStep s (sliceTryFillIn E esz eal n errat inner s).1 :=
  ((sliceTryFillIn_main hE errat inner s [] (init_live s h) hA heal hin).2 hne).ledger

/-- the allocator ledger stays equal to the chunk list (C03's invariant) -/
theorem sliceTryFillIn_ledger {E esz eal n} (hE : EnvOK E) {s : St} (h : ArenaWF E s.a) (errat : Option Nat)
    (inner : List Inner) (hA : IsPow2 eal) (heal : eal ≤ 2 ^ 63) (hin : ∀ i ∈ inner, InnerValid i)
    (hl : Ledger s) (hne : (sliceTryFillIn E esz eal n errat inner s).2 ≠ .envBad) :
    Ledger (sliceTryFillIn E esz eal n errat inner s).1 :=
  (sliceTryFillIn_ledgerStep hE h errat inner hA heal hin hne).preserves hl

theorem sliceTryFillIn_only_mallocs {E esz eal n} (hE : EnvOK E) {s : St} (h : ArenaWF E s.a) (errat : Option Nat)
    (inner : List Inner) (hA : IsPow2 eal) (heal : eal ≤ 2 ^ 63) (hin : ∀ i ∈ inner, InnerValid i)
    (hne : (sliceTryFillIn E esz eal n errat inner s).2 ≠ .envBad) :
    ∃ ms, (sliceTryFillIn E esz eal n errat inner s).1.evs = s.evs ++ ms ∧
      ∀ e ∈ ms, ∃ sz al r, e = Ev.malloc sz al r :=
  (sliceTryFillIn_ledgerStep hE h errat inner hA heal hin hne).onlyMallocs

/-- (C11) Blocks the closure allocated and kept stay valid and untouched when the closure fails
(the form of `C11.inner_blocks_kept`): after a failed fill every block that was live on entry and
every block the closure kept satisfies the live-block invariant (inside the allocated part of a held
chunk, pairwise disjoint), although the slice itself was given back with `dealloc`. -/
theorem sliceTryFillIn_blocks_kept {E esz eal n} (hE : EnvOK E) (errat : Option Nat) (inner : List Inner) (y : Sys)
    (inv : LiveInv E y) (hA : IsPow2 eal) (heal : eal ≤ 2 ^ 63) (hin : ∀ i ∈ inner, InnerValid i) (ps : List Nat)
    (hres : (sliceTryFillIn E esz eal n errat inner y.st).2 = .ierr ps) :
    LiveInv E ⟨(sliceTryFillIn E esz eal n errat inner y.st).1, y.live ++ keptBlocks inner ps⟩ := by
  obtain ⟨s, live⟩ := y
  have h := ((sliceTryFillIn_main hE errat inner s live inv hA heal hin).2 (by rw [hres]; simp)).live
  rw [hres] at h
  exact h

theorem sliceTryFillIn_kept_inChunk {E esz eal n} (hE : EnvOK E) (errat : Option Nat) (inner : List Inner) (y : Sys)
    (inv : LiveInv E y) (hA : IsPow2 eal) (heal : eal ≤ 2 ^ 63) (hin : ∀ i ∈ inner, InnerValid i) (ps : List Nat)
    (hres : (sliceTryFillIn E esz eal n errat inner y.st).2 = .ierr ps) :
    ∀ b ∈ keptBlocks inner ps, BlockInv (sliceTryFillIn E esz eal n errat inner y.st).1.a b ∧
      (0 < b.size → InChunk (sliceTryFillIn E esz eal n errat inner y.st).1.a b.ptr b.size) := by
  intro b hb
  have h := (sliceTryFillIn_blocks_kept hE errat inner y inv hA heal hin ps hres).blocks b
    (List.mem_append_right _ hb)
  refine ⟨h, fun hpos => ?_⟩
  rcases h.2.2.2 with h0 | h1
  · omega
  · exact h1

theorem sliceTryFillIn_err_result {E esz eal n i} (hE : EnvOK E) (inner : List Inner) {s : St} (h : ArenaWF E s.a)
    (hA : IsPow2 eal) (heal : eal ≤ 2 ^ 63) (hin : ∀ j ∈ inner, InnerValid j) (hi : i < n)
    (hne : (sliceTryFillIn E esz eal n (some i) inner s).2 ≠ .envBad) :
    ((sliceTryFillIn E esz eal n (some i) inner s).2 = .panic ∧ (sliceTryFillIn E esz eal n (some i) inner s).1.a = s.a) ∨
    ∃ ps, (sliceTryFillIn E esz eal n (some i) inner s).2 = .ierr ps := by
  rcases ((sliceTryFillIn_main hE (some i) inner s [] (init_live s h) hA heal hin).2 hne).shape with h1 | h1 | h1
  · exact Or.inl h1
  · exact Or.inr h1.2
  · exact absurd hi (h1.1 i rfl)

theorem sliceTryFillIn_ok_live {E esz eal n} (hE : EnvOK E) (errat : Option Nat) (inner : List Inner) (y : Sys)
    (inv : LiveInv E y) (hA : IsPow2 eal) (heal : eal ≤ 2 ^ 63) (hin : ∀ i ∈ inner, InnerValid i) (p : Nat) (ps : List Nat)
    (hres : (sliceTryFillIn E esz eal n errat inner y.st).2 = .ptrIn p ps) :
    LiveInv E ⟨(sliceTryFillIn E esz eal n errat inner y.st).1, y.live ++ [⟨p, esz * n⟩] ++ keptBlocks inner ps⟩ := by
  obtain ⟨s, live⟩ := y
  have h := ((sliceTryFillIn_main hE errat inner s live inv hA heal hin).2 (by rw [hres]; simp)).live
  rw [hres] at h
  exact h

/-- (C02) the arena writes no memory -/
theorem sliceTryFillIn_mem {E esz eal n} (hE : EnvOK E) {s : St} (h : ArenaWF E s.a) (errat : Option Nat)
    (inner : List Inner) (hA : IsPow2 eal) (heal : eal ≤ 2 ^ 63) (hin : ∀ i ∈ inner, InnerValid i)
    (hne : (sliceTryFillIn E esz eal n errat inner s).2 ≠ .envBad) :
    (sliceTryFillIn E esz eal n errat inner s).1.mem = s.mem :=
  ((sliceTryFillIn_main hE errat inner s [] (init_live s h) hA heal hin).2 hne).mem

/-- sanity: with a closure that does not touch the arena the composite is `Op.tfill` (same final state) -/
theorem sliceTryFillIn_nil {E esz eal n} (errat : Option Nat) (s : St) :
    (sliceTryFillIn E esz eal n errat [] s).1 = (sliceTryFill E esz eal n errat s).1 := by
  unfold sliceTryFillIn sliceTryFill
  cases arrayLayout esz eal n with
  | none => rfl
  | some total =>
    simp only [runInner, ite_self]
    cases hr : allocLayout E total eal s with
    | mk s1 o1 =>
      cases o1 with
      | ok p =>
        simp only [bindO_ok]
        cases errat with
        | none => rfl
        | some i =>
          simp only
          by_cases hi : i < n
          · simp only [hi, ↓reduceIte]
          · simp only [hi, ↓reduceIte]
      | err => rfl
      | panic => rfl
      | bad w => rfl
      | envBad => rfl

end Bump

#print axioms Bump.LedgerStep.onlyMallocs
#print axioms Bump.dealloc_live_mid
#print axioms Bump.fillInner_spec
#print axioms Bump.sliceTryFillIn_main
#print axioms Bump.sliceTryFillIn_wf
#print axioms Bump.sliceTryFillIn_nobad
#print axioms Bump.sliceTryFillIn_ledgerStep
#print axioms Bump.sliceTryFillIn_ledger
#print axioms Bump.sliceTryFillIn_only_mallocs
#print axioms Bump.sliceTryFillIn_blocks_kept
#print axioms Bump.sliceTryFillIn_kept_inChunk
#print axioms Bump.sliceTryFillIn_err_result
#print axioms Bump.sliceTryFillIn_ok_live
#print axioms Bump.sliceTryFillIn_mem
#print axioms Bump.sliceTryFillIn_nil
