import BumpVerif.Proofs.Step
/-! History-level contents theorem (C02): over every admissible history of the full operation
alphabet, the arena never changes a byte of a live block other than the one being reallocated.

The only writers in the model are `grow`/`shrink` (copy) and `grow_zeroed` (zero fill); all of
their writes land inside the block they return, which the live-block invariant keeps disjoint from
every other live block (`realloc_step`). -/
namespace Bump
open Gen

theorem sysStep_contents {E} (hE : EnvOK E) (y : Sys) (op : Op) (inv : LiveInv E y) (hv : OpValidFull y op)
    (hne : (sysStep E op y).2 ≠ .envBad) (m : Mem) (b : Block) (hb : b ∈ y.live) (hnt : target op ≠ some b)
    (x : Nat) (hx : b.ptr ≤ x ∧ x < b.ptr + b.size) :
    applyEffs m (sysStep E op y).1.st.mem x = applyEffs m y.st.mem x :=
  ((sysStep_post hE y op inv hv).2 hne).contents m b hb hnt x hx

def Untouched (E : Nat) (b : Block) : List Op → Sys → Prop
  | [], _ => True
  | op :: ops, y => b ∈ y.live ∧ target op ≠ some b ∧ Untouched E b ops (sysStep E op y).1

/-- **All histories.** Along every admissible history of the full alphabet, a block that stays
live and is not itself reallocated keeps every one of its bytes. -/
theorem history_contents {E} (hE : EnvOK E) : ∀ (ops : List Op) (y : Sys), LiveInv E y → RunOKFull E ops y →
    ∀ (m : Mem) (b : Block), Untouched E b ops y → ∀ x, b.ptr ≤ x ∧ x < b.ptr + b.size →
    applyEffs m (sysRun E ops y).1.st.mem x = applyEffs m y.st.mem x := by
  intro ops
  induction ops with
  | nil => intro y _ _ m b _ x _; rfl
  | cons op ops ih =>
    intro y inv ⟨hv, hne, hrest⟩ m b ⟨hb, hnt, hu'⟩ x hx
    have post := (sysStep_post hE y op inv hv).2 hne
    exact (ih _ post.live hrest m b hu' x hx).trans (post.contents m b hb hnt x hx)

end Bump
