import BumpVerif.Proofs.VecRaw
/-!
# When a reservation is not refused

`GrowOK c N`: the arena serves every buffer of up to `2·N` elements — a sufficient condition for "no
reservation of a total of at most `N` elements is refused" (`rawReserve_grow`), used to state when a method
does *not* panic.
-/
namespace Bump.V
open Bump

def GrowOK (c : Cfg) (N : Nat) : Prop := c.allocOk = true ∧ c.esz * (2 * N) ≤ c.allocLimit ∧ N ≤ USIZE_MAX

theorem GrowOK.mono {c : Cfg} {n N : Nat} (h : n ≤ N) (hg : GrowOK c N) : GrowOK c n :=
  ⟨hg.1, Nat.le_trans (Nat.mul_le_mul_left _ (by omega)) hg.2.1, Nat.le_trans h hg.2.2⟩

theorem GrowOK.serves {c : Cfg} {N n : Nat} (hc : CfgOK c) (hg : GrowOK c N) (he : c.esz ≠ 0) (hn : n ≤ 2 * N) :
    arrayLayout c.esz c.eal n = some (c.esz * n) ∧ c.esz * n ≤ c.allocLimit := by
  have hbytes : c.esz * n ≤ c.allocLimit := Nat.le_trans (Nat.mul_le_mul_left _ hn) hg.2.1
  refine ⟨?_, hbytes⟩
  have hle : n ≤ (2 ^ 63 - c.eal) / c.esz :=
    (Nat.le_div_iff_mul_le (by omega)).mpr (by rw [Nat.mul_comm]; have := hc.2; omega)
  simp only [arrayLayout, ne_eq, he, not_false_eq_true, true_and, Nat.not_lt.mpr hle, ↓reduceIte]

theorem rawReserve_grow {c : Cfg} {v : VS} {used extra N : Nat} (hc : CfgOK c) (hg : GrowOK c N) (hb : BufOK c v)
    (hu : used ≤ capOf c v) (hN : used + extra ≤ N) : rawReserve c v used extra ≠ none := by
  rw [rawReserve_eq hb.capLt hu]
  split
  · simp
  · by_cases he : c.esz = 0
    · have := hg.2.2; simp only [capOf, he, ↓reduceIte] at *; omega
    · -- the new capacity `max(2·cap, used + extra)` is at most `2·N`
      rename_i hslow
      have hcapv : capOf c v = v.cap := by simp only [capOf, he, ↓reduceIte]
      rw [hcapv] at hslow
      obtain ⟨hlay, hbytes⟩ := hg.serves hc he (n := max (v.cap * 2) (used + extra)) (Nat.max_le.mpr ⟨by omega, by omega⟩)
      have hsum : used + extra < USIZE := Nat.lt_of_le_of_lt (Nat.le_trans hN hg.2.2) (Nat.sub_lt (Nat.two_pow_pos 64) Nat.one_pos)
      unfold reserveInternal amortizedNewCap checkedAdd
      simp [hsum, hb.capHalf he, hlay, hg.1, Nat.not_lt.mpr hbytes, Except.toOption]

theorem RepB.reserve_grow {c : Cfg} {v : VS} {xs : List Elem} {n N : Nat} (hc : CfgOK c) (hg : GrowOK c N) (h : RepB c v xs)
    (hN : xs.length + n ≤ N) : rawReserve c v v.len n ≠ none :=
  rawReserve_grow hc hg h.bufOK h.lenCap (by rw [h.len]; exact hN)

end Bump.V
