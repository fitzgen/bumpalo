import BumpVerif.Proofs.Bind
import BumpVerif.Proofs.Mem
import BumpVerif.Proofs.Rewind
import BumpVerif.Proofs.Ledger
/-! One step of the ghost system, for the whole operation alphabet: the live-block invariant, the
allocator ledger and the absence of writes are established together, operation by operation, from
what the primitives guarantee (`alloc_cases`, `runInner_spec`, `dealloc_live_mid`, `realloc_live`,
`rewind_live`); the history theorems are inductions over `sysRun` on top of it. -/
namespace Bump
open Gen

theorem alloc_cases {E sz al} {s s' : St} {live : List Block} {o : Outcome Nat} (hE : EnvOK E)
    (inv : LiveInv E ⟨s, live⟩) (sp : AllocPost E s s' sz al o) :
    o = .envBad ∨ ((o = .err ∨ o = .panic) ∧ LiveInv E ⟨s', live⟩ ∧ Quiet s s') ∨
    ∃ p, o = .ok p ∧ 0 < p ∧ al ∣ p ∧ LiveInv E ⟨s', live ++ [⟨p, sz⟩]⟩ ∧ Quiet s s' := by
  cases o with
  | ok p =>
    exact .inr (.inr ⟨p, rfl, (sp.ok p rfl).2.2.2.1, (sp.ok p rfl).2.1, allocPost_live hE inv sp rfl,
      allocPost_quiet sp (by simp)⟩)
  | err => exact .inr (.inl ⟨.inl rfl, allocPost_fail_live inv sp (.inl rfl), allocPost_quiet sp (by simp)⟩)
  | panic => exact .inr (.inl ⟨.inr rfl, allocPost_fail_live inv sp (.inr rfl), allocPost_quiet sp (by simp)⟩)
  | bad w => exact absurd rfl (sp.nobad w)
  | envBad => exact .inl rfl

theorem tryAllocOr0_cases {E sz al} {s : St} {live : List Block} (hE : EnvOK E) (inv : LiveInv E ⟨s, live⟩)
    (hA : IsPow2 al) (hlay : sz + al ≤ 2 ^ 63) :
    (tryAllocOr0 E sz al s).2 = .envBad ∨ ∃ p, (tryAllocOr0 E sz al s).2 = .ok p ∧ Quiet s (tryAllocOr0 E sz al s).1 ∧
      (p = 0 ∨ al ∣ p) ∧ LiveInv E ⟨(tryAllocOr0 E sz al s).1, live ++ (if p = 0 then [] else [⟨p, sz⟩])⟩ := by
  obtain ⟨sp, hnp⟩ := tryAllocLayout_spec (sz := sz) (al := al) s hE inv.wf hA hlay
  unfold tryAllocOr0
  generalize tryAllocLayout E sz al s = r at sp hnp ⊢
  obtain ⟨s1, o⟩ := r
  rcases alloc_cases hE inv sp with rfl | ⟨rfl | rfl, l, q⟩ | ⟨p, rfl, hpos, hal, l, q⟩
  · exact .inl rfl
  · exact .inr ⟨0, rfl, q, .inl rfl, by simpa using l⟩
  · exact absurd rfl hnp
  · exact .inr ⟨p, rfl, q, .inr hal, by rw [if_neg (by omega)]; exact l⟩

theorem runInner_spec {E} (hE : EnvOK E) : ∀ (inner : List Inner) (s : St) (live : List Block) (acc : List Nat),
    LiveInv E ⟨s, live⟩ → (∀ i ∈ inner, InnerValid i) →
    (runInner E inner s acc).2 = .envBad ∨ ∃ ps, (runInner E inner s acc).2 = .ok (acc ++ ps) ∧
      LiveInv E ⟨(runInner E inner s acc).1, live ++ keptBlocks inner ps⟩ ∧ Quiet s (runInner E inner s acc).1 := by
  intro inner
  induction inner with
  | nil =>
    intro s live acc inv _
    exact .inr ⟨[], by simp [runInner], by simpa [runInner, keptBlocks] using inv, .refl s⟩
  | cons i rest ih =>
    intro s live acc inv hval
    have hvr : ∀ j ∈ rest, InnerValid j := fun j hj => hval j (List.mem_cons_of_mem _ hj)
    have cont : ∀ (s1 : St) (p : Nat) (kept1 : List Block), Quiet s s1 → LiveInv E ⟨s1, live ++ kept1⟩ →
        (∀ ps, keptBlocks (i :: rest) (p :: ps) = kept1 ++ keptBlocks rest ps) →
        (runInner E rest s1 (acc ++ [p])).2 = .envBad ∨ ∃ ps, (runInner E rest s1 (acc ++ [p])).2 = .ok (acc ++ ps) ∧
          LiveInv E ⟨(runInner E rest s1 (acc ++ [p])).1, live ++ keptBlocks (i :: rest) ps⟩ ∧
          Quiet s (runInner E rest s1 (acc ++ [p])).1 := by
      intro s1 p kept1 q l hk
      rcases ih s1 _ (acc ++ [p]) l hvr with h | ⟨ps, h, l', q'⟩
      · exact .inl h
      · exact .inr ⟨p :: ps, by rw [h, List.append_assoc]; rfl, by rw [hk, ← List.append_assoc]; exact l', q.trans q'⟩
    cases i with
    | keep sz al =>
      obtain ⟨hA, hlay⟩ := hval _ List.mem_cons_self
      simp only [runInner]
      rcases tryAllocOr0_cases hE inv hA hlay with h | ⟨p, h, q, _, l⟩
      · exact .inl (by rw [bindO_of_envBad h])
      · rw [bindO_of_ok h]
        exact cont _ p _ q l fun _ => rfl
    | release sz al =>
      obtain ⟨hA, hlay⟩ := hval _ List.mem_cons_self
      simp only [runInner]
      rcases tryAllocOr0_cases hE inv hA hlay with h | ⟨p, h, q, hal, l⟩
      · exact .inl (by rw [bindO_of_envBad h])
      · rw [bindO_of_ok h]
        by_cases hp : p = 0
        · rw [if_pos hp] at l ⊢
          exact cont _ p [] q l fun _ => rfl
        · rw [if_neg hp] at l ⊢
          obtain ⟨hd, l2⟩ := dealloc_live_mid hE (post := []) l hA (hal.resolve_left hp)
          rw [bindO_of_ok hd]
          exact cont _ p [] (q.trans (dealloc_quiet E p sz _)) l2 fun _ => rfl

theorem atw_of_not_ok {E sz al} (ok : Bool) (inner : List Inner) (f : Bool) (s : St)
    (h : ∀ p, (allocMaybe E f sz al s).2 ≠ .ok p) :
    allocTryWith E sz al ok inner f s = ((allocMaybe E f sz al s).1, Res.ofOutcome Res.ptr (allocMaybe E f sz al s).2) := by
  unfold allocTryWith
  generalize allocMaybe E f sz al s = r at h
  obtain ⟨s1, o⟩ := r
  cases o with
  | ok p => exact absurd rfl (h p)
  | _ => rfl

theorem atw_of_envBad {E sz al slot} (ok : Bool) (inner : List Inner) (f : Bool) (s : St)
    (h1 : (allocMaybe E f sz al s).2 = .ok slot) (h2 : (runInner E inner (allocMaybe E f sz al s).1 []).2 = .envBad) :
    allocTryWith E sz al ok inner f s = ((runInner E inner (allocMaybe E f sz al s).1 []).1, .envBad) := by
  simp only [allocTryWith, bindO_of_ok h1, bindO_of_envBad h2, Res.ofOutcome]

theorem atw_of_ok {E sz al slot ps} (inner : List Inner) (f : Bool) (s : St)
    (h1 : (allocMaybe E f sz al s).2 = .ok slot) (h2 : (runInner E inner (allocMaybe E f sz al s).1 []).2 = .ok ps) :
    allocTryWith E sz al true inner f s = ((runInner E inner (allocMaybe E f sz al s).1 []).1, .ptrIn slot ps) := by
  simp only [allocTryWith, bindO_of_ok h1, bindO_of_ok h2, ↓reduceIte, Res.ofOutcome, id]

theorem atw_of_ierr {E sz al slot ps} (inner : List Inner) (f : Bool) (s : St)
    (h1 : (allocMaybe E f sz al s).2 = .ok slot) (h2 : (runInner E inner (allocMaybe E f sz al s).1 []).2 = .ok ps)
    (h3 : (rewind E (footerId s.a) (s.a.cur E).ptr slot (runInner E inner (allocMaybe E f sz al s).1 []).1).2 = .ok ()) :
    allocTryWith E sz al false inner f s =
      ((rewind E (footerId s.a) (s.a.cur E).ptr slot (runInner E inner (allocMaybe E f sz al s).1 []).1).1, .ierr ps) := by
  simp only [allocTryWith, bindO_of_ok h1, bindO_of_ok h2, Bool.false_eq_true, ↓reduceIte, bindO_of_ok h3, Res.ofOutcome, id]

theorem sliceTryFill_eq_alloc {E esz eal n total} (errat : Option Nat) (s : St) (hl : arrayLayout esz eal n = some total)
    (h : ∀ i p, errat = some i → i < n → (allocLayout E total eal s).2 ≠ .ok p) :
    sliceTryFill E esz eal n errat s =
      ((allocLayout E total eal s).1, Res.ofOutcome Res.ptr (allocLayout E total eal s).2) := by
  simp only [sliceTryFill, hl]
  generalize allocLayout E total eal s = r at h
  obtain ⟨s1, o⟩ := r
  cases o with
  | ok p =>
    cases errat with
    | none => rfl
    | some i =>
      have hi : ¬ i < n := fun hi => h i p rfl hi rfl
      simp only [bindO, hi, ↓reduceIte, Res.ofOutcome, id]
  | _ => rfl

theorem sliceTryFill_of_err {E esz eal n total i p} (s : St) (hl : arrayLayout esz eal n = some total) (hi : i < n)
    (h1 : (allocLayout E total eal s).2 = .ok p) (h2 : (dealloc E p total (allocLayout E total eal s).1).2 = .ok ()) :
    sliceTryFill E esz eal n (some i) s = ((dealloc E p total (allocLayout E total eal s).1).1, .ierr []) := by
  simp only [sliceTryFill, hl, bindO_of_ok h1, hi, ↓reduceIte, bindO_of_ok h2, Res.ofOutcome, id]

/-- the block an operation is allowed to rewrite -/
def target : Op → Option Block
  | .agrow p osz _ _ _ _ => some ⟨p, osz⟩
  | .ashrink p osz _ _ _ => some ⟨p, osz⟩
  | _ => none

structure StepPost (E : Nat) (y : Sys) (op : Op) (y' : Sys) : Prop where
  live : LiveInv E y'
  ledger : Ledger y.st → Ledger y'.st
  mem : target op = none → y'.st.mem = y.st.mem
  contents : ∀ (m : Mem) (b : Block), b ∈ y.live → target op ≠ some b → ∀ x, b.ptr ≤ x ∧ x < b.ptr + b.size →
    applyEffs m y'.st.mem x = applyEffs m y.st.mem x

theorem StepPost.of_mem {E y op y'} (hl : LiveInv E y') (hled : Ledger y.st → Ledger y'.st) (hm : y'.st.mem = y.st.mem) :
    StepPost E y op y' := ⟨hl, hled, fun _ => hm, fun _ _ _ _ _ _ => by rw [hm]⟩

theorem StepPost.of_quiet {E y op} {s' : St} {live' : List Block} (hl : LiveInv E ⟨s', live'⟩) (q : Quiet y.st s') :
    StepPost E y op ⟨s', live'⟩ := .of_mem hl q.ledger.preserves q.mem

def StepOK (E : Nat) (y : Sys) (op : Op) (s' : St) (res : Res) : Prop :=
  (∀ w, res ≠ .bad w) ∧ (res ≠ .envBad → StepPost E y op ⟨s', liveAfter y.live op res⟩)

theorem StepOK.envBad {E y op} {s' : St} : StepOK E y op s' .envBad := ⟨nofun, fun h => absurd rfl h⟩

theorem StepOK.of_quiet {E y op res} {s' : St} (hb : ∀ w, res ≠ .bad w) (l : LiveInv E ⟨s', liveAfter y.live op res⟩)
    (q : Quiet y.st s') : StepOK E y op s' res := ⟨hb, fun _ => .of_quiet l q⟩

theorem alloc_step {E op sz al} {y : Sys} {s' : St} {o : Outcome Nat} (hE : EnvOK E) (inv : LiveInv E y)
    (sp : AllocPost E y.st s' sz al o)
    (hok : ∀ p, o = .ok p → liveAfter y.live op (.ptr p) = y.live ++ [⟨p, sz⟩])
    (herr : liveAfter y.live op .err = y.live) (hpanic : liveAfter y.live op .panic = y.live) :
    StepOK E y op s' (Res.ofOutcome Res.ptr o) := by
  rcases alloc_cases hE inv sp with rfl | ⟨rfl | rfl, l, q⟩ | ⟨p, rfl, _, _, l, q⟩
  · exact .envBad
  · exact .of_quiet (fun _ => nofun) (herr.symm ▸ l) q
  · exact .of_quiet (fun _ => nofun) (hpanic.symm ▸ l) q
  · exact .of_quiet (fun _ => nofun) ((hok p rfl).symm ▸ l) q

/-- `grow`/`shrink` (and the zero fill after `grow`): `s1` is the state the reallocation left, `s2`
differs from it at most by the zero fill of the new tail. The copies and the fill land inside the new
block, which the invariant keeps apart from every other live block. -/
theorem realloc_step {E op p osz nsz nal} {y : Sys} {s1 s2 : St} {o : Outcome Nat} (inv : LiveInv E y)
    (hmem : ⟨p, osz⟩ ∈ y.live) (post : ReallocPost E y.st s1 p osz nsz nal o) (hl : LedgerCall y.st (s1, o))
    (ha : s2.a = s1.a) (he : s2.evs = s1.evs)
    (hm : s2.mem = s1.mem ∨ ∃ q, o = .ok q ∧ s2.mem = s1.mem ++ [.zero (q + osz) (nsz - osz)])
    (ht : target op = some ⟨p, osz⟩)
    (hok : ∀ q, liveAfter y.live op (.ptr q) = y.live.erase ⟨p, osz⟩ ++ [⟨q, nsz⟩])
    (herr : liveAfter y.live op .err = y.live) :
    StepOK E y op s2 (Res.ofOutcome Res.ptr o) := by
  have hled : o ≠ .envBad → Ledger y.st → Ledger s2 := fun hne h => by
    have := (hl.resolve_left hne).preserves h
    unfold Ledger at this ⊢
    rw [he, ha]; exact this
  have htn : target op ≠ none := by rw [ht]; nofun
  cases o with
  | ok q =>
    have l := realloc_live inv hmem post
    refine ⟨fun _ => nofun, fun _ => ⟨?_, hled nofun, fun h => absurd h htn, fun m b hb hnt x hx => ?_⟩⟩
    · show LiveInv E ⟨s2, liveAfter y.live op (.ptr q)⟩
      rw [hok]
      exact live_same_arena l ha
    · have hne : b ≠ ⟨p, osz⟩ := fun h => hnt (by rw [ht, h])
      have hno : NoOverlap b ⟨q, nsz⟩ :=
        (List.pairwise_append.mp l.disj).2.2 b ((List.mem_erase_of_ne hne).mpr hb) _ List.mem_cons_self
      have hout : ¬ (q ≤ x ∧ x < q + nsz) := by
        unfold NoOverlap Disj at hno; simp only at hno; omega
      have hc : applyEffs m s1.mem x = applyEffs m y.st.mem x := (realloc_contents m post).2 x hout
      rcases hm with hm | ⟨q', hq, hm⟩
      · rw [hm, hc]
      · cases hq
        rw [hm, applyEffs_snoc, ← hc]
        exact if_neg (by omega)
  | err =>
    obtain ⟨e1, e2, _⟩ := post.err rfl
    have hm' : s2.mem = y.st.mem := by
      rcases hm with hm | ⟨_, hq, _⟩
      · rw [hm, e2]
      · cases hq
    refine ⟨fun _ => nofun, fun _ => .of_mem ?_ (hled nofun) hm'⟩
    show LiveInv E ⟨s2, liveAfter y.live op .err⟩
    rw [herr]
    exact live_same_arena inv (ha.trans e1)
  | panic => exact absurd rfl post.nopanic
  | bad w => exact absurd rfl (post.nobad w)
  | envBad => exact .envBad

theorem zeroFill_bind (z : Bool) (osz nsz : Nat) (g : St × Outcome Nat) :
    let r := bindO g fun s q => (if z then { s with mem := s.mem ++ [.zero (q + osz) (nsz - osz)] } else s, .ok q)
    r.2 = g.2 ∧ r.1.a = g.1.a ∧ r.1.evs = g.1.evs ∧
      (r.1.mem = g.1.mem ∨ ∃ q, g.2 = .ok q ∧ r.1.mem = g.1.mem ++ [.zero (q + osz) (nsz - osz)]) := by
  obtain ⟨s1, o⟩ := g
  cases o with
  | ok q =>
    cases z
    · exact ⟨rfl, rfl, rfl, .inl rfl⟩
    · exact ⟨rfl, rfl, rfl, .inr ⟨q, rfl, rfl⟩⟩
  | _ => exact ⟨rfl, rfl, rfl, .inl rfl⟩

/-- **One step, all operations.** From a state satisfying the live-block invariant, any operation that
meets its caller obligations never yields an assertion failure / wrap / UB (`bad`), and unless it
reports an allocator-contract violation (`envBad`) it yields a state satisfying the invariant again,
keeps the allocator ledger equal to the chunk list, and — `grow`/`shrink` apart — writes no memory.
This includes initialisers that allocate in the arena (keep and release blocks, acquire chunks)
and then fail. -/
theorem sysStep_post {E} (hE : EnvOK E) (y : Sys) (op : Op) (inv : LiveInv E y) (hv : OpValidFull y op) :
    (∀ w, (sysStep E op y).2 ≠ .bad w) ∧ ((sysStep E op y).2 ≠ .envBad → StepPost E y op (sysStep E op y).1) := by
  show StepOK E y op (step E op y.st).1 (step E op y.st).2
  obtain ⟨s, live⟩ := y
  cases op with
  | alloc sz al f =>
    exact alloc_step hE inv (allocMaybe_spec f s hE inv.wf hv.1 hv.2) (fun _ _ => rfl) rfl rfl
  | array esz eal n f =>
    cases hl : arrayLayout esz eal n with
    | none =>
      simp only [step, hl]
      cases f <;> exact .of_quiet (fun _ => nofun) inv (.refl s)
    | some total =>
      obtain ⟨rfl, hlay⟩ := arrayLayout_some hv.2 hl
      simp only [step, hl]
      exact alloc_step hE inv (allocMaybe_spec f s hE inv.wf hv.1 hlay) (fun _ _ => rfl) rfl rfl
  | aalloc sz al =>
    exact alloc_step hE inv (tryAllocLayout_spec s hE inv.wf hv.1 hv.2).1 (fun _ _ => rfl) rfl rfl
  | afree p sz al =>
    obtain ⟨hmem, hA, hd⟩ := hv
    obtain ⟨h1, h2⟩ := dealloc_live hE inv hmem hA hd
    simp only [step, h1, Res.ofOutcome]
    exact .of_quiet (fun _ => nofun) h2 (dealloc_quiet E p sz s)
  | agrow p osz oal nsz nal z =>
    obtain ⟨hmem, hO, hd, hN, hle, hlay⟩ := hv
    have post := grow_spec s hE inv.wf (blockOK_of_inv (inv.blocks _ hmem) hO hd) hN hle hlay
    obtain ⟨z1, z2, z3, z4⟩ := zeroFill_bind z osz nsz (grow E p osz oal nsz nal s)
    simp only [step, z1]
    exact realloc_step inv hmem post (grow_ledger s hE inv.wf hN hlay) z2 z3 z4 rfl (fun _ => rfl) rfl
  | ashrink p osz oal nsz nal =>
    obtain ⟨hmem, hO, hd, hN, hle, hlay⟩ := hv
    exact realloc_step inv hmem (shrink_spec s hE inv.wf (blockOK_of_inv (inv.blocks _ hmem) hO hd) hN hle hlay)
      (shrink_ledger s hE inv.wf hN hlay) rfl rfl (.inl rfl) rfl (fun _ => rfl) rfl
  | reset =>
    obtain ⟨h2, h3, h4, _⟩ := reset_spec s inv.wf
    simp only [step, h2, Res.ofOutcome]
    exact ⟨fun _ => nofun, fun _ => .of_mem (init_live _ h3) (reset_ledger s inv.wf) h4⟩
  | limit v =>
    exact ⟨fun _ => nofun, fun _ => .of_mem (inv.transport (.refl _) (limit_wf v inv.wf) rfl fun _ _ _ hi => hi) id rfl⟩
  | tfill esz eal n errat =>
    cases hl : arrayLayout esz eal n with
    | none => simp only [step, sliceTryFill, hl]; exact .of_quiet (fun _ => nofun) inv (.refl s)
    | some total =>
      obtain ⟨rfl, hlay⟩ := arrayLayout_some hv.2 hl
      simp only [step]
      have sp := allocLayout_spec (sz := esz * n) (al := eal) s hE inv.wf hv.1 hlay
      by_cases herr : ∃ i p, errat = some i ∧ i < n ∧ (allocLayout E (esz * n) eal s).2 = .ok p
      · -- reserved, then given back on the closure's error
        obtain ⟨i, p, rfl, hi, hp⟩ := herr
        obtain ⟨hd, l⟩ := alloc_dealloc_live hE inv hv.1 sp hp
        rw [sliceTryFill_of_err s hl hi hp hd]
        exact .of_quiet (fun _ => nofun) l ((allocPost_quiet sp (by rw [hp]; nofun)).trans (dealloc_quiet E _ _ _))
      · rw [sliceTryFill_eq_alloc errat s hl fun i p h1 h2 h3 => herr ⟨i, p, h1, h2, h3⟩]
        exact alloc_step hE inv sp (fun _ _ => rfl) rfl rfl
  | atw sz al ok inner f =>
    obtain ⟨hA, hlay, hin⟩ := hv
    have sp := allocMaybe_spec f s hE inv.wf hA hlay
    simp only [step]
    by_cases hres : ∃ slot, (allocMaybe E f sz al s).2 = .ok slot
    · obtain ⟨slot, hs⟩ := hres
      obtain ⟨wf1, _, hMs, hpos, hsh, _⟩ := sp.ok slot hs
      have q1 := allocPost_quiet sp (by rw [hs]; simp)
      cases ok with
      | true =>
        rcases runInner_spec hE inner _ _ [] (allocPost_live hE inv sp hs) hin with h | ⟨ps, h, l, q⟩
        · rw [atw_of_envBad true inner f s hs h]
          exact .envBad
        · rw [atw_of_ok inner f s hs h]
          exact .of_quiet (fun _ => nofun) l (q1.trans q)
      | false =>
        -- the slot is counted with its alignment padding: that is the region the rewind gives back
        obtain ⟨pad, _, hps, l1⟩ := alloc_live_padded hE inv wf1 sp.m_eq hMs hpos hsh
        rcases runInner_spec hE inner _ _ [] l1 hin with h | ⟨ps, h, l, q⟩
        · rw [atw_of_envBad false inner f s hs h]
          exact .envBad
        · rw [List.append_assoc] at l
          obtain ⟨r1, r2⟩ := rewind_live inv.wf wf1 sp.m_eq hps q.persist l
          rw [atw_of_ierr inner f s hs h r1]
          exact .of_quiet (fun _ => nofun) r2 ((q1.trans q).trans (rewind_quiet E _ _ _ _))
    · rw [atw_of_not_ok ok inner f s fun p hp => hres ⟨p, hp⟩]
      exact alloc_step hE inv sp (fun p hp => absurd ⟨p, hp⟩ hres) rfl rfl

theorem sysStep_live_full {E} (hE : EnvOK E) (y : Sys) (op : Op) (inv : LiveInv E y) (hv : OpValidFull y op) :
    (∀ w, (sysStep E op y).2 ≠ .bad w) ∧ ((sysStep E op y).2 ≠ .envBad → LiveInv E (sysStep E op y).1) :=
  ⟨(sysStep_post hE y op inv hv).1, fun hne => ((sysStep_post hE y op inv hv).2 hne).live⟩

def RunOKFull (E : Nat) : List Op → Sys → Prop
  | [], _ => True
  | op :: ops, y => OpValidFull y op ∧ (sysStep E op y).2 ≠ .envBad ∧ RunOKFull E ops (sysStep E op y).1

theorem RunOK.full {E} : ∀ {ops : List Op} {y : Sys}, RunOK E ops y → RunOKFull E ops y
  | [], _, _ => trivial
  | _ :: _, _, ⟨hv, hne, hrest⟩ => ⟨hv.full, hne, hrest.full⟩

/-- **All histories, all operations.** The live-block invariant holds after every admissible history,
and no step of it ever produces an assertion failure, a wrap-around or undefined behaviour. -/
theorem sysRun_live_full {E} (hE : EnvOK E) : ∀ (ops : List Op) (y : Sys), LiveInv E y → RunOKFull E ops y →
    LiveInv E (sysRun E ops y).1 ∧ ∀ r ∈ (sysRun E ops y).2, ∀ w, r ≠ .bad w := by
  intro ops
  induction ops with
  | nil => intro y inv _; exact ⟨inv, fun _ h => (List.not_mem_nil h).elim⟩
  | cons op ops ih =>
    intro y inv ⟨hv, hne, hrest⟩
    obtain ⟨h1, h2⟩ := sysStep_live_full hE y op inv hv
    obtain ⟨i1, i2⟩ := ih (sysStep E op y).1 (h2 hne) hrest
    refine ⟨i1, fun r hr => ?_⟩
    rcases List.mem_cons.mp hr with rfl | hr
    · exact h1
    · exact i2 r hr

/-- **All histories.** The live-block invariant holds after every admissible history, and no
step of it ever produces an assertion failure, a wrap-around or undefined behaviour. -/
theorem sysRun_live {E} (hE : EnvOK E) : ∀ (ops : List Op) (y : Sys), LiveInv E y → RunOK E ops y →
    LiveInv E (sysRun E ops y).1 ∧ ∀ r ∈ (sysRun E ops y).2, ∀ w, r ≠ .bad w :=
  fun ops y inv hrun => sysRun_live_full hE ops y inv hrun.full

end Bump
