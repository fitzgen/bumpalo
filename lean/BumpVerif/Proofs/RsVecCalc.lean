import BumpVerif.Model.RsVecM
import BumpVerif.Proofs.RsVecAttr
/-! The combinators of the `RawVec` / `Vec` translator unfold under `simp only [rsv]`. -/
namespace Bump.V
open Bump RsV RsM

attribute [rsv] bindV pureV bindW pureW bindU bindK liftV RsV.set_cap RsV.reset_new RsV.arena_dealloc

/-! The `ok` reductions as equations for `rw` (`simp only [rsv]` unfolds the combinators everywhere, inside continuations too). -/
theorem pureV_ok {α β : Type} (v : VS) (a : α) (f : VS → α → VS × Outcome β) : pureV v (.ok a) f = f v a := rfl
theorem pureW_ok {α β : Type} (s : VW) (a : α) (f : VW → α → VW × Outcome β) : pureW s (.ok a) f = f s a := rfl
theorem bindW_ok {α β : Type} (s : VW) (a : α) (f : VW → α → VW × Outcome β) : bindW (s, .ok a) f = f s a := rfl
theorem bindU_ok {α β : Type} (s : VW) (a : α) (cl : VW → VW) (f : VW → α → VW × Outcome β) : bindU (s, .ok a) cl f = f s a := rfl

@[rsv] theorem bindV_ok_id {α : Type} (x : VS × Outcome α) : (bindV x fun v r => (v, .ok r)) = x := by
  obtain ⟨v, o⟩ := x
  cases o <;> rfl

@[rsv] theorem bindW_ok_id {α : Type} (x : VW × Outcome α) : (bindW x fun s r => (s, .ok r)) = x := by
  obtain ⟨s, o⟩ := x
  cases o <;> rfl

end Bump.V
