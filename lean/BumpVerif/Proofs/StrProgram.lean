import BumpVerif.Proofs.StrRange
import BumpVerif.Proofs.StrRetain
/-!
# Programs over the `String` API: validity is an invariant of every run

`SOp` lists the methods of the property; `stepOp` is what one call does to the string under
`catch_unwind` (a call that panics on its index/range assertion leaves the string unchanged;
closures that panic are the business of C16: `Proofs/StrPanic.lean`).  Text arguments are `List Char`
(a `&str` argument is valid UTF-8 by its type).
-/
namespace Bump.Str

inductive SOp where
  | push (c : Char)
  | pushStr (t : List Char)
  | pop
  | insert (i : Nat) (c : Char)
  | insertStr (i : Nat) (t : List Char)
  | remove (i : Nat)
  | truncate (n : Nat)
  | clear
  | retain (ans : Nat → Bool)
  | drain (sb eb : Bd) (take back : Nat) (forget : Bool)
  | replaceRange (sb eb : Bd) (t : List Char)
  | splitOff (at_ : Nat) (keepOther : Bool)
  | extendChars (cs : List Char)
  | extendStrs (ts : List (List Char))
  | clone
  | fromStr (t : List Char)
  | fromIter (cs : List Char)

/-- state after one call; `none` = the model reported `bad` (must never happen) -/
def stepOp (ovf : Bool) (s : Bytes) : SOp → Option Bytes
  | .push c => some (push s c)
  | .pushStr t => some (pushStr s (encode t))
  | .pop => match pop s with | .ok (s', _) => some s' | .panic => some s | _ => none
  | .insert i c => match insert s i c with | .ok s' => some s' | .panic => some s | _ => none
  | .insertStr i t => match insertStr s i (encode t) with | .ok s' => some s' | .panic => some s | _ => none
  | .remove i => match remove s i with | .ok (s', _) => some s' | .panic => some s | _ => none
  | .truncate n => match truncate s n with | .ok s' => some s' | .panic => some s | _ => none
  | .clear => some (clear s)
  | .retain ans => match retain s ans none with | .ok r => some r.bytes | _ => none
  | .drain sb eb take back forget =>
    match drain ovf s sb eb take back forget with | .ok r => some r.bytes | .panic => some s | _ => none
  | .replaceRange sb eb t =>
    match replaceRange ovf s sb eb (encode t) with | .ok s' => some s' | .panic => some s | _ => none
  | .splitOff at_ keepOther =>
    match splitOff s at_ with | .ok (s', o) => some (if keepOther then o else s') | .panic => some s | _ => none
  | .extendChars cs => some (extendChars s cs)
  | .extendStrs ts => some (extendStrs s (ts.map encode))
  | .clone => some (clone s)
  | .fromStr t => some (encode t)
  | .fromIter cs => some (fromIter cs)

def runOps (ovf : Bool) : Bytes → List SOp → Option Bytes
  | s, [] => some s
  | s, op :: ops => match stepOp ovf s op with | some s' => runOps ovf s' ops | none => none

/-- **One call keeps the string valid UTF-8, never reaches a `bad` state, for every method,
every argument (any byte index, any range bound incl. `usize::MAX`, either overflow mode).** -/
theorem stepOp_valid (ovf : Bool) {s : Bytes} (hv : Valid s) (op : SOp) :
    ∃ s', stepOp ovf s op = some s' ∧ Valid s' := by
  cases op with
  | push c => exact ⟨_, rfl, Valid_append hv (Valid_encChar c)⟩
  | pushStr t => exact ⟨_, rfl, Valid_append hv (Valid_encode t)⟩
  | pop =>
    obtain ⟨l, rfl⟩ := hv
    exact ⟨encode l.dropLast, by simp [stepOp, pop_encode], Valid_encode _⟩
  | insert i c =>
    rcases boundary_cases hv i with hb | ⟨l₁, l₂, rfl, rfl⟩
    · exact ⟨s, by simp [stepOp, (insert_panic_iff s i c).mpr hb], hv⟩
    · exact ⟨_, by simp only [stepOp, insert_split]; rfl, Valid_encode _⟩
  | insertStr i t =>
    rcases boundary_cases hv i with hb | ⟨l₁, l₂, rfl, rfl⟩
    · exact ⟨s, by simp [stepOp, (insertStr_panic_iff s i (encode t)).mpr hb], hv⟩
    · refine ⟨_, by simp only [stepOp, insertStr_split]; rfl, ?_⟩
      rw [← encode_append, ← encode_append]; exact Valid_encode _
  | remove i =>
    rcases remove_valid hv i with h | ⟨s', c, h, hv'⟩
    · exact ⟨s, by simp [stepOp, h], hv⟩
    · exact ⟨s', by simp [stepOp, h], hv'⟩
  | truncate n =>
    rcases boundary_cases hv n with hb | ⟨l₁, l₂, rfl, rfl⟩
    · by_cases hn : n ≤ s.length
      · exact ⟨s, by simp [stepOp, (truncate_panic_iff s n).mpr ⟨hn, hb⟩], hv⟩
      · exact ⟨s, by simp [stepOp, truncate_beyond s n (by omega)], hv⟩
    · exact ⟨_, by simp only [stepOp, truncate_split]; rfl, Valid_encode _⟩
  | clear => exact ⟨[], rfl, Valid_nil⟩
  | retain ans =>
    obtain ⟨l, rfl⟩ := hv
    exact ⟨_, by simp only [stepOp, retain_spec]; rfl, Valid_encode _⟩
  | drain sb eb take back forget =>
    rcases drain_valid ovf hv sb eb take back forget with h | ⟨r, h, hv'⟩
    · exact ⟨s, by simp [stepOp, h], hv⟩
    · exact ⟨r.bytes, by simp [stepOp, h], hv'⟩
  | replaceRange sb eb t =>
    rcases replaceRange_valid ovf hv sb eb t with h | ⟨s', h, hv'⟩
    · exact ⟨s, by simp [stepOp, h], hv⟩
    · exact ⟨s', by simp [stepOp, h], hv'⟩
  | splitOff at_ keepOther =>
    rcases boundary_cases hv at_ with hb | ⟨l₁, l₂, rfl, rfl⟩
    · exact ⟨s, by simp [stepOp, (splitOff_panic_iff s at_).mpr hb], hv⟩
    · refine ⟨_, by simp only [stepOp, splitOff_split]; rfl, ?_⟩
      cases keepOther <;> exact Valid_encode _
  | extendChars cs =>
    obtain ⟨l, rfl⟩ := hv
    exact ⟨_, rfl, by rw [extendChars_encode]; exact Valid_encode _⟩
  | extendStrs ts =>
    obtain ⟨l, rfl⟩ := hv
    exact ⟨_, rfl, by rw [extendStrs_encode]; exact Valid_encode _⟩
  | clone => exact ⟨s, rfl, hv⟩
  | fromStr t => exact ⟨_, rfl, Valid_encode t⟩
  | fromIter cs => exact ⟨_, rfl, by rw [fromIter_encode]; exact Valid_encode _⟩

theorem run_valid {Op : Type} {step : Bytes → Op → Option Bytes} {run : Bytes → List Op → Option Bytes}
    (hnil : ∀ s, run s [] = some s)
    (hcons : ∀ s op ops, run s (op :: ops) = match step s op with | some s' => run s' ops | none => none)
    (hstep : ∀ {s : Bytes}, Valid s → ∀ op, ∃ s', step s op = some s' ∧ Valid s') (ops : List Op) :
    ∀ {s : Bytes}, Valid s → ∃ s', run s ops = some s' ∧ Valid s' := by
  induction ops with
  | nil => intro s hv; exact ⟨s, hnil s, hv⟩
  | cons op ops ih =>
    intro s hv
    obtain ⟨s₁, h₁, hv₁⟩ := hstep hv op
    obtain ⟨s₂, h₂, hv₂⟩ := ih hv₁
    exact ⟨s₂, by rw [hcons, h₁]; exact h₂, hv₂⟩

theorem runOps_valid (ovf : Bool) (ops : List SOp) : ∀ {s : Bytes}, Valid s →
    ∃ s', runOps ovf s ops = some s' ∧ Valid s' :=
  run_valid (fun _ => rfl) (fun _ _ _ => rfl) (stepOp_valid ovf) ops

end Bump.Str
