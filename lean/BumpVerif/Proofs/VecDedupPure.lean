import BumpVerif.Proofs.VecDedup
/-!
# `dedup_by` / `dedup_by_key` / `dedup` with a comparison that is a function of the two elements
-/
namespace Bump.V
open Bump

/-- what `dedup_by(same)` keeps of the elements after `b` (the last kept one) -/
def dedupKeep (same : Elem → Elem → Bool) : Elem → List Elem → List Elem
  | _, [] => []
  | b, a :: r => if same a b then dedupKeep same b r else a :: dedupKeep same a r

def dedupDups (same : Elem → Elem → Bool) : Elem → List Elem → List Elem
  | _, [] => []
  | b, a :: r => if same a b then a :: dedupDups same b r else dedupDups same a r

/-- `dedup_by(same)` on lists: the first element of every run of "same" elements -/
def dedupSpec (same : Elem → Elem → Bool) : List Elem → List Elem
  | [] => []
  | x :: xs => x :: dedupKeep same x xs

def dedupRemoved (same : Elem → Elem → Bool) : List Elem → List Elem
  | [] => []
  | x :: xs => dedupDups same x xs

theorem dedup_length (same : Elem → Elem → Bool) (b : Elem) (U : List Elem) :
    (dedupKeep same b U).length + (dedupDups same b U).length = U.length := by
  induction U generalizing b with
  | nil => rfl
  | cons a r ih =>
    simp only [dedupKeep, dedupDups]
    split
    · have := ih b; simp; omega
    · have := ih a; simp; omega

theorem set_swap {α} (K D U : List α) (d0 a : α) :
    ((K ++ d0 :: (D ++ a :: U)).set (K.length + (D.length + 1)) d0).set K.length a = K ++ a :: (D ++ d0 :: U) := by
  simp

theorem swapSlots_mid (K D U : List Elem) (d0 a : Elem) (rest : List (Option Elem)) :
    swapSlots ((K ++ d0 :: (D ++ a :: U)).map some ++ rest) (K.length + (D.length + 1)) K.length =
      (K ++ a :: (D ++ d0 :: U)).map some ++ rest := by
  have hi : K.length + (D.length + 1) < (K ++ d0 :: (D ++ a :: U)).length := by simp
  have hj : K.length < (K ++ d0 :: (D ++ a :: U)).length := by simp
  rw [swapSlots_rep _ rest _ _ hi hj]
  have h1 : (K ++ d0 :: (D ++ a :: U))[K.length] = d0 := by simp
  have h2 : (K ++ d0 :: (D ++ a :: U))[K.length + (D.length + 1)] = a := by
    rw [List.getElem_append_right (by omega)]
    simp
  rw [h1, h2, set_swap]

theorem slot_mid (A B : List Elem) (x : Elem) (rest : List (Option Elem)) :
    (((A ++ x :: B).map some ++ rest)[A.length]?).join = some x := by
  have h : A.length < (A ++ x :: B).length := by simp
  rw [getElem?_join_map_some _ rest _ h]
  simp

theorem dedupLoop_done (cb : Nat → Elem → Elem → Option Bool) (len f : Nat) (s : List (Option Elem)) (r wr calls : Nat) (w : W)
    (h : ¬ r < len) : dedupLoop cb len (f + 1) s r wr calls w = (s, wr, w, true) := by
  rw [dedupLoop]; simp [h]

theorem dedupLoop_step_same (cb : Nat → Elem → Elem → Option Bool) (len f : Nat) (s : List (Option Elem)) (r wr calls : Nat) (w : W)
    (a b : Elem) (h : r < len) (ha : (s[r]?).join = some a) (hb : (s[wr - 1]?).join = some b) (hcb : cb calls a b = some true) :
    dedupLoop cb len (f + 1) s r wr calls w = dedupLoop cb len f s (r + 1) wr (calls + 1) w := by
  rw [dedupLoop]; simp [h, ha, hb, hcb]

theorem dedupLoop_step_diff (cb : Nat → Elem → Elem → Option Bool) (len f : Nat) (s : List (Option Elem)) (r wr calls : Nat) (w : W)
    (a b : Elem) (h : r < len) (ha : (s[r]?).join = some a) (hb : (s[wr - 1]?).join = some b) (hcb : cb calls a b = some false) :
    dedupLoop cb len (f + 1) s r wr calls w =
      dedupLoop cb len f (if r ≠ wr then swapSlots s r wr else s) (r + 1) (wr + 1) (calls + 1) w := by
  rw [dedupLoop]; simp [h, ha, hb, hcb]

/-- the loop of `partition_dedup_by`: `K0 ++ [b]` are the elements kept so far, `D` the duplicates found so far
(swapped behind them), `U` what has not been examined -/
theorem dedupLoop_pure (same : Elem → Elem → Bool) (rest : List (Option Elem)) (w : W) (len : Nat) :
    ∀ (fuel : Nat) (K0 : List Elem) (b : Elem) (D U : List Elem) (calls : Nat) (s : List (Option Elem)) (r wr : Nat),
      U.length ≤ fuel → len = r + U.length →
      s = (K0 ++ b :: (D ++ U)).map some ++ rest → r = wr + D.length → wr = K0.length + 1 →
      ∃ D' : List Elem, dedupLoop (fun _ a b => some (same a b)) len fuel s r wr calls w =
          (((K0 ++ b :: dedupKeep same b U) ++ D').map some ++ rest, (K0 ++ b :: dedupKeep same b U).length, w, true) ∧
        D'.Perm (D ++ dedupDups same b U) := by
  intro fuel
  induction fuel with
  | zero =>
    intro K0 b D U calls s r wr hU hlen hs hr hwr
    have : U = [] := List.eq_nil_of_length_eq_zero (Nat.le_zero.mp hU)
    subst this
    exact ⟨D, by rw [dedupLoop, hs, hwr]; simp [dedupKeep], by simp [dedupDups]⟩
  | succ f ih =>
    intro K0 b D U calls s r wr hU hlen hs hr hwr
    cases U with
    | nil =>
      refine ⟨D, ?_, by simp [dedupDups]⟩
      rw [dedupLoop_done _ _ _ _ _ _ _ _ (by rw [hlen]; exact Nat.lt_irrefl _), hs, hwr]; simp [dedupKeep]
    | cons a U' =>
      have hU' : U'.length ≤ f := Nat.le_of_succ_le_succ hU
      have hlen' : len = r + 1 + U'.length := hlen.trans (Nat.succ_add_eq_add_succ r U'.length).symm
      have hrl : r < len := by rw [hlen]; exact Nat.lt_add_of_pos_right (Nat.succ_pos _)
      have ha : (s[r]?).join = some a := by
        have e1 : K0 ++ b :: (D ++ a :: U') = (K0 ++ b :: D) ++ a :: U' := by simp
        have e2 : r = (K0 ++ b :: D).length := by
          rw [hr, hwr, List.length_append, List.length_cons, Nat.add_assoc, Nat.add_comm 1]
        rw [hs, e1, e2]; exact slot_mid _ _ _ _
      have hb : (s[wr - 1]?).join = some b := by
        rw [hs, hwr, Nat.add_sub_cancel]; exact slot_mid _ _ _ _
      cases hsm : same a b with
      | true =>
        have hk : dedupKeep same b (a :: U') = dedupKeep same b U' := by simp only [dedupKeep, hsm, ↓reduceIte]
        have hd : dedupDups same b (a :: U') = a :: dedupDups same b U' := by simp only [dedupDups, hsm, ↓reduceIte]
        obtain ⟨D', hrun, hperm⟩ := ih K0 b (D ++ [a]) U' (calls + 1) s (r + 1) wr hU' hlen' (by rw [hs]; simp)
          (by rw [List.length_append, List.length_singleton, ← Nat.add_assoc, hr]) hwr
        rw [hk, hd, dedupLoop_step_same _ _ _ _ _ _ _ _ a b hrl ha hb (by rw [hsm])]
        exact ⟨D', hrun, by simpa only [List.append_assoc, List.singleton_append] using hperm⟩
      | false =>
        -- kept: `a` becomes the last kept element; if duplicates stand before it, it is swapped with the first of them
        have hk : dedupKeep same b (a :: U') = a :: dedupKeep same a U' := by
          simp only [dedupKeep, hsm, Bool.false_eq_true, ↓reduceIte]
        have hd : dedupDups same b (a :: U') = dedupDups same a U' := by simp only [dedupDups, hsm, Bool.false_eq_true, ↓reduceIte]
        rw [hk, hd]
        have hwr' : wr + 1 = (K0 ++ [b]).length + 1 := by rw [List.length_append, List.length_singleton, hwr]
        have key : ∀ (D1 : List Elem) (s1 : List (Option Elem)), s1 = ((K0 ++ [b]) ++ a :: (D1 ++ U')).map some ++ rest →
            D1.length = D.length → D1.Perm D →
            dedupLoop (fun _ a b => some (same a b)) len (f + 1) s r wr calls w =
              dedupLoop (fun _ a b => some (same a b)) len f s1 (r + 1) (wr + 1) (calls + 1) w →
            ∃ D' : List Elem, dedupLoop (fun _ a b => some (same a b)) len (f + 1) s r wr calls w =
                (((K0 ++ b :: a :: dedupKeep same a U') ++ D').map some ++ rest, (K0 ++ b :: a :: dedupKeep same a U').length, w, true) ∧
              D'.Perm (D ++ dedupDups same a U') := by
          intro D1 s1 hs1 hl1 hp1 hstep
          obtain ⟨D', hrun, hperm⟩ := ih (K0 ++ [b]) a D1 U' (calls + 1) s1 (r + 1) (wr + 1) hU' hlen' hs1
            (by rw [hl1, hr, Nat.add_right_comm]) hwr'
          rw [List.append_assoc K0, List.singleton_append] at hrun
          exact ⟨D', hstep.trans hrun, hperm.trans (hp1.append_right _)⟩
        have hstep := dedupLoop_step_diff (fun _ a b => some (same a b)) len f s r wr calls w a b hrl ha hb (by rw [hsm])
        cases D with
        | nil =>
          rw [if_neg (by rw [hr]; exact fun h => h rfl)] at hstep
          exact key [] s (by rw [hs]; simp) rfl (List.Perm.refl _) hstep
        | cons d0 D'' =>
          rw [if_pos (by rw [hr, List.length_cons]; exact Nat.ne_of_gt (Nat.lt_add_of_pos_right (Nat.succ_pos _)))] at hstep
          refine key (D'' ++ [d0]) _ ?_ (by simp) (List.perm_append_comm (l₁ := D'') (l₂ := [d0])) hstep
          have e1 : K0 ++ b :: (d0 :: D'' ++ a :: U') = (K0 ++ [b]) ++ d0 :: (D'' ++ a :: U') := by simp
          have e2 : r = (K0 ++ [b]).length + (D''.length + 1) := by
            rw [hr, hwr, List.length_cons, List.length_append, List.length_singleton]
          have e3 : wr = (K0 ++ [b]).length := by rw [hwr, List.length_append, List.length_singleton]
          rw [hs, e1, e2, e3, swapSlots_mid]; simp

theorem dedupSpec_short (same : Elem → Elem → Bool) {xs : List Elem} (h : xs.length ≤ 1) :
    dedupSpec same xs = xs ∧ dedupRemoved same xs = [] := by
  match xs, h with
  | [], _ => exact ⟨rfl, rfl⟩
  | [x], _ => exact ⟨rfl, rfl⟩
  | _ :: _ :: _, h => simp at h

/-- `dedup_by(same)` (and `dedup` = `dedup_by(==)`, `dedup_by_key(k)` = `dedup_by(k(a) == k(b))`); the removed
elements `zs` are dropped in some order -/
theorem dedupBy_pure_spec {c : Cfg} {v : VS} {xs : List Elem} (h : RepB c v xs) (same : Elem → Elem → Bool) (w : W)
    (hnp : c.dropPanicAt = none) :
    ∃ (v' : VS) (w' : W) (zs : List Elem), dedupBy c v (fun _ a b => some (same a b)) w = (v', w', some ()) ∧
      RepB c v' (dedupSpec same xs) ∧ w'.evs = w.evs ++ dropEvs c zs ∧ zs.Perm (dedupRemoved same xs) ∧ w'.bad = w.bad := by
  rw [dedupBy_unfold]
  by_cases h1 : v.len ≤ 1
  · rw [if_pos h1]
    obtain ⟨v', w', hp, hr, hev, hb, _⟩ := truncate_noPanic h v.len w hnp
    rw [h.len] at h1 hr hev
    obtain ⟨hspec, hrem⟩ := dedupSpec_short same h1
    rw [List.take_length] at hr
    rw [List.drop_length] at hev
    exact ⟨v', w', [], hp, by rw [hspec]; exact hr, by simpa using hev, by rw [hrem], hb⟩
  · rw [if_neg h1]
    rcases v with ⟨sl, l, cp⟩
    obtain ⟨rest, rfl, rfl⟩ := h.toRep.nf
    cases xs with
    | nil => simp at h1
    | cons x xs' =>
      obtain ⟨D', hrun, hperm⟩ := dedupLoop_pure same rest w (x :: xs').length (x :: xs').length [] x [] xs' 0
        ((x :: xs').map some ++ rest) 1 1 (Nat.le_succ _) (Nat.add_comm _ 1) rfl rfl rfl
      simp only [List.nil_append] at hrun hperm
      simp only [hrun, ↓reduceIte]
      have hLl : ((x :: dedupKeep same x xs') ++ D').length = (x :: xs').length := by
        have := dedup_length same x xs'
        have := hperm.length_eq
        simp only [List.length_append, List.length_cons] at *; omega
      have hrepL := h.shrink (ys := (x :: dedupKeep same x xs') ++ D') (rest' := rest) (by simp only [List.length_append, List.length_map, hLl]) (by omega)
      rw [hLl] at hrepL
      obtain ⟨v', w', hp, hr, hev, hb, _⟩ := truncate_noPanic hrepL (x :: dedupKeep same x xs').length w hnp
      rw [List.take_left' rfl] at hr
      rw [List.drop_left' rfl] at hev
      exact ⟨v', w', D'.reverse, hp, hr, hev, (List.reverse_perm D').trans hperm, hb⟩

end Bump.V
