import BumpVerif.Proofs.Slow
/-! `alloc_layout_slow`, `try_alloc_layout`, `alloc_layout`: total, assertion-free, and what
they do to the arena. -/
namespace Bump
open Gen

theorem allocFast_of_room {M al rs : Nat} (c : Chunk) (sz : Nat) (hpos : 0 < max al M)
    (hdp : c.data ≤ c.ptr) (hptr : c.ptr < 2 ^ 63) (hMp : M ∣ c.ptr) (hAd : max al M ∣ c.data)
    (hrs : roundUpTo sz (max al M) = some rs) (hroom : c.data + rs ≤ c.ptr) :
    allocFast M c sz al = some (roundDownTo c.ptr (max al M) - rs) := by
  rw [allocFast_eq c sz hdp hptr hMp, hrs]
  exact if_pos (le_roundDownTo hpos (Nat.dvd_add hAd (roundUpTo_some hpos hrs).2.2.1) hroom)

def AllocShape (E : Nat) (a a' : Arena) (p sz : Nat) : Prop :=
  (a.chunks = [] ∧ a' = a ∧ p = E ∧ sz = 0) ∨
  (∃ c cs, a.chunks = c :: cs ∧ a'.chunks = { c with ptr := p } :: cs ∧ c.data ≤ p ∧ p + sz ≤ c.ptr) ∨
  (∃ c, a'.chunks = { c with ptr := p } :: a.chunks ∧ c.data ≤ p ∧ p + sz ≤ c.footer ∧ c.ptr = c.footer ∧
      (∀ h ∈ a.chunks, Disj c.data c.size h.data h.size) ∧ Disj c.data c.size E FOOTER_SIZE ∧
      c.ab = a.allocatedBytes E + usable c)

def AllocVia (E : Nat) (a a' : Arena) (p sz al : Nat) : Prop :=
  tryFast E a sz al = .ok (some (a', p)) ∨
  (∃ c, ChunkWF a.M c ∧ c.ptr = c.footer ∧ a'.chunks = { c with ptr := p } :: a.chunks ∧
     tryFast E { a with chunks := c :: a.chunks } sz al = .ok (some (a', p)))

structure AllocPost (E : Nat) (s s' : St) (sz al : Nat) (o : Outcome Nat) : Prop where
  nobad : ∀ w, o ≠ .bad w
  mem_eq : s'.mem = s.mem
  m_eq : s'.a.M = s.a.M
  lim_eq : s'.a.limit = s.a.limit
  via : ∀ p, o = .ok p → AllocVia E s.a s'.a p sz al
  ok : ∀ p, o = .ok p → ArenaWF E s'.a ∧ al ∣ p ∧ s.a.M ∣ p ∧ 0 < p ∧ AllocShape E s.a s'.a p sz ∧
      ∃ refs, AllRefused refs ∧
        (s'.evs = s.evs ++ refs ∧ s'.a.chunks.length = s.a.chunks.length ∨
         ∃ c, s'.a.chunks = c :: s.a.chunks ∧ s'.evs = s.evs ++ refs ++ [.malloc c.size c.align (some c.data)] ∧
           0 < usable c ∧ (∀ L, s.a.limit = some L → s.a.allocatedBytes E + usable c ≤ L) ∧
           (∃ k, max (usable (s.a.cur E) * 2) (max sz DEFAULT_CHUNK_SIZE_WITHOUT_FOOTER) / 2 ^ k ≤ usable c))
  fail : o = .err ∨ o = .panic → s'.a = s.a ∧ ∃ refs, AllRefused refs ∧ s'.evs = s.evs ++ refs

theorem AllocPost.pushed {E s s' sz al o p c} (sp : AllocPost E s s' sz al o) (hok : o = .ok p)
    (hnew : s'.a.chunks = c :: s.a.chunks) :
    0 < usable c ∧ sz ≤ usable c ∧ (∀ L, s.a.limit = some L → s.a.allocatedBytes E + usable c ≤ L) ∧
    ∃ k, max (usable (s.a.cur E) * 2) (max sz DEFAULT_CHUNK_SIZE_WITHOUT_FOOTER) / 2 ^ k ≤ usable c := by
  obtain ⟨_, _, _, _, hsh, refs, _, hcase⟩ := sp.ok p hok
  have hlen := congrArg List.length hnew
  rcases hcase with ⟨_, hlen'⟩ | ⟨c', hc', _, hpos, hlim, hk⟩
  · rw [hlen'] at hlen; exact absurd hlen.symm (Nat.succ_ne_self _)
  · cases (List.cons.inj (hnew.symm.trans hc')).1
    refine ⟨hpos, ?_, hlim, hk⟩
    -- only the third shape lengthens the chunk list; there the block lies between `data` and `footer`
    rcases hsh with ⟨_, ha, _⟩ | ⟨c0, cs, h0, h0', _⟩ | ⟨c1, hc1, hge, hle, _⟩
    · rw [ha] at hlen; exact absurd hlen.symm (Nat.succ_ne_self _)
    · rw [h0, h0'] at hlen; exact absurd hlen.symm (Nat.succ_ne_self _)
    · cases (List.cons.inj (hnew.symm.trans hc1)).1
      unfold Chunk.footer at hle
      exact Nat.le_of_add_le_add_left (Nat.le_trans (Nat.add_le_add_right hge sz) hle)

theorem FreshChunk.usable_eq {E held M d ab c} (hfc : FreshChunk E held M d ab c) : usable c = d.nswf :=
  Nat.add_left_cancel hfc.nswf_eq

theorem consChunk_wf {E a c d} (h : ArenaWF E a) (hf : FreshChunk E a.chunks a.M d (a.allocatedBytes E) c) :
    ArenaWF E { a with chunks := c :: a.chunks } := by
  refine ⟨h.mpow, h.mle, List.forall_mem_cons.mpr ⟨hf.wf, h.chunks⟩, ?_, List.pairwise_cons.mpr ⟨hf.disj, h.disj⟩,
    List.forall_mem_cons.mpr ⟨hf.sdisj, h.sdisj⟩, ?_⟩
  · show c.ab = usable c + sumUsable a.chunks
    rw [hf.ab_eq, Arena.allocatedBytes, h.ab, Nat.add_comm, hf.usable_eq]
  · show c.size + sumSize a.chunks ≤ 2 ^ 63
    rw [Nat.add_comm]; exact hf.total

theorem ab_le_sumSize {E a} (h : ArenaWF E a) : a.allocatedBytes E ≤ sumSize a.chunks := by
  unfold Arena.allocatedBytes
  rw [h.ab]
  unfold sumUsable sumSize usable
  generalize a.chunks = l
  induction l with
  | nil => simp
  | cons x xs ih => simp only [List.map_cons, List.sum_cons]; omega

theorem AllocPost.of_err {E s s' sz al refs} (ha : s'.a = s.a) (hm : s'.mem = s.mem) (hrf : AllRefused refs)
    (hev : s'.evs = s.evs ++ refs) : AllocPost E s s' sz al .err :=
  ⟨nofun, hm, by rw [ha], by rw [ha], nofun, nofun, fun _ => ⟨ha, refs, hrf, hev⟩⟩

theorem AllocPost.of_envBad {E s s' sz al} (hm : s'.mem = s.mem) (hM : s'.a.M = s.a.M) (hL : s'.a.limit = s.a.limit) :
    AllocPost E s s' sz al .envBad :=
  ⟨nofun, hm, hM, hL, nofun, nofun, fun h => h.elim nofun nofun⟩

/-- The chunk the slow path obtained serves the request it was sized for. -/
theorem fresh_serves {E a sz al n0 d c} (hE : EnvOK E) (h : ArenaWF E a) (hA : IsPow2 al) (hlay : sz + al ≤ 2 ^ 63)
    (hd : DetailsOK a.M sz al n0 d) (hfc : FreshChunk E a.chunks a.M d (a.allocatedBytes E) c) :
    ∃ a' p, tryFast E { a with chunks := c :: a.chunks } sz al = .ok (some (a', p)) ∧ ArenaWF E a' ∧
      a'.M = a.M ∧ a'.limit = a.limit ∧ al ∣ p ∧ a.M ∣ p ∧ 0 < p ∧
      a'.chunks = { c with ptr := p } :: a.chunks ∧ c.data ≤ p ∧ p + sz ≤ c.footer := by
  have hwf' := consChunk_wf h hfc
  have hmaxpow : IsPow2 (max al a.M) := hA.max h.mpow
  have hdal : IsPow2 d.align := by rw [hd.align_eq]; exact chunkAlign_pow2 h.mpow hA
  have hmaxdvd : max al a.M ∣ d.align :=
    hmaxpow.dvd_of_le hdal (hd.align_eq ▸ le_chunkAlign ..)
  obtain ⟨rs', hrs'⟩ := roundUpTo_isSome (n := sz) (d := max al a.M)
    (by have : USIZE = 2 ^ 64 := rfl; have := h.mle; omega)
  obtain ⟨rs, hrs, hrsle⟩ := hd.fits
  have hmono := roundUpTo_mono_dvd hmaxpow.pos hdal.pos hmaxdvd hrs' hrs
  have hptrc : c.ptr = c.data + d.nswf := by rw [hfc.ptr_eq, hfc.nswf_eq]
  have hp := allocFast_of_room c sz hmaxpow.pos hfc.wf.ptr_ge
    hfc.wf.ptr_lt hfc.wf.ptr_al
    (Nat.dvd_trans hmaxdvd hfc.al_dvd) hrs' (by omega)
  rcases tryFast_cases (sz := sz) (al := al) hE hwf' hA hlay with ⟨_, hn⟩ | ⟨a', p, htf, _, hwf'', eff⟩
  · rw [show Arena.cur { a with chunks := c :: a.chunks } E = c from rfl, hp] at hn; cases hn
  · rcases eff.shape with ⟨hnil, _⟩ | ⟨c0, cs0, hc0, hc0', hge, hle⟩
    · cases hnil
    · cases hc0
      exact ⟨a', p, htf, hwf'', eff.m_eq, eff.lim_eq, eff.al_dvd, eff.m_dvd, eff.nz, hc0', hge, hfc.ptr_eq ▸ hle⟩

theorem allocSlow_spec {E sz al} (s : St) (hE : EnvOK E) (h : ArenaWF E s.a) (hA : IsPow2 al)
    (hlay : sz + al ≤ 2 ^ 63) :
    AllocPost E s (allocSlow E sz al s).1 sz al (allocSlow E sz al s).2 ∧ (allocSlow E sz al s).2 ≠ .panic := by
  obtain ⟨_, _, _, _, c5, _, c7⟩ := cur_ok hE h
  have hU : USIZE = 2 ^ 64 := rfl
  have := FS; have := DF; have := OV
  unfold allocSlow
  simp only
  rw [if_neg (Nat.not_lt.mpr c5), checkedMul_two (n := (s.a.cur E).size - FOOTER_SIZE) (by omega)]
  simp only
  have hsp := slowLoop_spec (E := E) (held := s.a.chunks) (M := s.a.M) (limit := s.a.limit)
    (ab := s.a.allocatedBytes E) (sz := sz) (al := al) (rem := limitRemaining s.a E)
    (minNew := max sz DEFAULT_CHUNK_SIZE_WITHOUT_FOOTER) h.mpow h.mle hA hlay (by omega) (ab_le_sumSize h)
    69 (max (((s.a.cur E).size - FOOTER_SIZE) * 2) (max sz DEFAULT_CHUNK_SIZE_WITHOUT_FOOTER)) s (by omega) (by omega)
  generalize slowLoop E s.a.chunks s.a.M s.a.limit (s.a.allocatedBytes E) sz al (limitRemaining s.a E)
    (max sz DEFAULT_CHUNK_SIZE_WITHOUT_FOOTER) 70 _ s = r at hsp
  obtain ⟨s1, o1⟩ := r
  obtain ⟨ha, hm, hc⟩ := hsp
  simp only at ha hm hc
  rcases hc with ⟨rfl, refs, hev, hrf⟩ | rfl | ⟨c, d, n0, refs, rfl, hd, hfc, hk, hfit, hrf, hev⟩
  · simp only [bindO]
    exact ⟨.of_err ha hm hrf hev, nofun⟩
  · simp only [bindO]
    exact ⟨.of_envBad hm (congrArg Arena.M ha) (congrArg Arena.limit ha), nofun⟩
  · obtain ⟨a', p, htf, hwf', hM, hL, hal, hMp, hpos, hch, hge, hle⟩ := fresh_serves hE h hA hlay hd hfc
    simp only [bindO, pureO, ha, htf]
    have hus : usable { c with ptr := p } = d.nswf := hfc.usable_eq
    refine ⟨⟨nofun, hm, hM, hL, ?_, ?_, fun hh => hh.elim nofun nofun⟩, nofun⟩
    · intro q hq; cases hq
      exact Or.inr ⟨c, hfc.wf, hfc.ptr_eq, hch, htf⟩
    · intro q hq; cases hq
      refine ⟨hwf', hal, hMp, hpos, Or.inr (Or.inr ⟨c, hch, hge, hle, hfc.ptr_eq, hfc.disj, hfc.sdisj, ?_⟩),
        refs, hrf, Or.inr ⟨_, hch, by rw [List.append_assoc] at hev ⊢; exact hev, hus ▸ hfc.nswf_pos, ?_, ?_⟩⟩
      · rw [hfc.ab_eq, hfc.usable_eq]
      · intro L hL
        rw [hus]
        simp only [fitsUnderLimit, limitRemaining, hL, Option.map_some, decide_eq_true_eq] at hfit
        have := hfc.nswf_pos
        omega
      · obtain ⟨k, hk⟩ := hk
        exact ⟨k, by rw [hus]; exact hk ▸ hd.ge_req⟩

theorem tryAllocLayout_spec {E sz al} (s : St) (hE : EnvOK E) (h : ArenaWF E s.a) (hA : IsPow2 al)
    (hlay : sz + al ≤ 2 ^ 63) :
    AllocPost E s (tryAllocLayout E sz al s).1 sz al (tryAllocLayout E sz al s).2 ∧
    (tryAllocLayout E sz al s).2 ≠ .panic := by
  unfold tryAllocLayout
  rcases tryFast_cases (sz := sz) (al := al) hE h hA hlay with ⟨htf, _⟩ | ⟨a', p, htf, _, hwf', eff⟩
  · rw [htf]
    simp only [pureO, bindO]
    exact allocSlow_spec s hE h hA hlay
  · rw [htf]
    simp only [pureO, bindO]
    refine ⟨⟨nofun, rfl, eff.m_eq, eff.lim_eq, ?_, ?_, fun hh => hh.elim nofun nofun⟩, nofun⟩
    · intro q hq
      cases hq
      exact Or.inl htf
    intro q hq
    cases hq
    refine ⟨hwf', eff.al_dvd, eff.m_dvd, eff.nz, ?_, [], AllRefused.nil, Or.inl ⟨(List.append_nil _).symm, ?_⟩⟩
    · exact eff.shape.imp_right Or.inl
    · rcases eff.shape with ⟨_, ha, _, _⟩ | ⟨c, cs, hc, hc', _, _⟩
      · exact congrArg (·.chunks.length) ha
      · exact (congrArg List.length hc').trans (congrArg List.length hc).symm

theorem allocLayout_eq {E sz al} (s : St) :
    ((allocLayout E sz al s).2 = .panic ↔ ((tryAllocLayout E sz al s).2 = .err ∨ (tryAllocLayout E sz al s).2 = .panic)) ∧
    (allocLayout E sz al s).1 = (tryAllocLayout E sz al s).1 ∧
    (∀ p, (allocLayout E sz al s).2 = .ok p ↔ (tryAllocLayout E sz al s).2 = .ok p) ∧
    (allocLayout E sz al s).2 ≠ .err ∧
    (∀ w, (allocLayout E sz al s).2 = .bad w ↔ (tryAllocLayout E sz al s).2 = .bad w) ∧
    ((allocLayout E sz al s).2 = .envBad ↔ (tryAllocLayout E sz al s).2 = .envBad) := by
  unfold allocLayout
  rcases hr : tryAllocLayout E sz al s with ⟨s', o⟩
  cases o <;> simp

theorem allocLayout_spec {E sz al} (s : St) (hE : EnvOK E) (h : ArenaWF E s.a) (hA : IsPow2 al)
    (hlay : sz + al ≤ 2 ^ 63) :
    AllocPost E s (allocLayout E sz al s).1 sz al (allocLayout E sz al s).2 := by
  obtain ⟨sp, _⟩ := tryAllocLayout_spec s hE h hA hlay
  unfold allocLayout
  generalize tryAllocLayout E sz al s = r at sp
  obtain ⟨s1, o⟩ := r
  cases o with
  | err => exact ⟨nofun, sp.mem_eq, sp.m_eq, sp.lim_eq, nofun, nofun, fun _ => sp.fail (Or.inl rfl)⟩
  | _ => exact sp

theorem allocMaybe_spec {E sz al} (f : Bool) (s : St) (hE : EnvOK E) (h : ArenaWF E s.a) (hA : IsPow2 al)
    (hlay : sz + al ≤ 2 ^ 63) :
    AllocPost E s (allocMaybe E f sz al s).1 sz al (allocMaybe E f sz al s).2 := by
  cases f
  · exact allocLayout_spec s hE h hA hlay
  · exact (tryAllocLayout_spec s hE h hA hlay).1

/-- fallible entry points never panic (C09) -/
theorem allocMaybe_fallible_nopanic {E sz al} (s : St) (hE : EnvOK E) (h : ArenaWF E s.a) (hA : IsPow2 al)
    (hlay : sz + al ≤ 2 ^ 63) : (allocMaybe E true sz al s).2 ≠ .panic :=
  (tryAllocLayout_spec s hE h hA hlay).2

theorem alloc_served {E sz al p} {s s' : St} (wf : ArenaWF E s.a) (sp : AllocPost E s s' sz al (.ok p)) :
    (s.a.chunks = [] ∧ s'.a = s.a) ∨
    ∃ c cs, s'.a.chunks = { c with ptr := p } :: cs ∧ ChunkWF s.a.M c ∧ allocFast s.a.M c sz al = some p ∧
      (s.a.chunks = c :: cs ∨
       (s.a.chunks = cs ∧ c.ptr = c.footer ∧ ∀ h ∈ cs, Disj c.data c.size h.data h.size)) := by
  rcases sp.via p rfl with htf | ⟨C, hwC, hpf, hc', htf⟩
  · have haf := (tryFast_some htf).1
    rcases setCurPtr_cases (tryFast_some htf).2 with h | ⟨c, cs, hc, h⟩
    · exact .inl h
    · rw [show s.a.cur E = c by simp [Arena.cur, hc]] at haf
      exact .inr ⟨c, cs, by rw [h], wf.chunks c (by rw [hc]; exact List.mem_cons_self), haf, .inl hc⟩
  · have haf := (tryFast_some htf).1
    simp only [Arena.cur, List.headD_cons] at haf
    have hd := (sp.ok p rfl).1.disj
    rw [hc'] at hd
    exact .inr ⟨C, _, hc', hwC, haf, .inr ⟨rfl, hpf, (List.pairwise_cons.mp hd).1⟩⟩

end Bump
