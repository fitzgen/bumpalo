import BumpVerif.Proofs.Box
/-!
# Box family: the ownership invariant `Own` over whole programs

`Own w`: no id occurs twice among the ids reachable through a slot, the drop log and the
moved-out log, and these are exactly the ids ever created.  It holds initially, every
operation preserves it (because every operation's effect is conservative, `effOf_wf`), hence it
holds after every program.  Splitting the reachable ids by who is responsible for them gives the
five pairwise disjoint classes owned / escaped / leaked / dropped / moved-out.
-/
namespace Bump.Bx

def W.all (w : W) : List Nat := w.live ++ w.drops ++ w.moved

structure Own (w : W) : Prop where
  nodup : w.all.Nodup
  conserv : w.created.Perm w.all
  fresh : ∀ id ∈ w.created, id < w.nextId

theorem count_live_set (slots : List Slot) (s : Nat) (old new : Slot) (h : slots[s]? = some old) (a : Nat) :
    ((slots.set s new).flatMap Slot.ids).count a + old.ids.count a
      = (slots.flatMap Slot.ids).count a + new.ids.count a := by
  induction slots generalizing s with
  | nil => simp at h
  | cons x xs ih =>
    cases s with
    | zero =>
      simp at h; subst h
      simp [List.flatMap_cons, List.count_append]; omega
    | succ s =>
      simp at h
      have := ih s h
      simp [List.flatMap_cons, List.count_append] at this ⊢; omega

theorem own_count_le {w : W} (h : Own w) (a : Nat) : w.live.count a + w.drops.count a + w.moved.count a ≤ 1 := by
  have := (List.nodup_iff_count.mp h.nodup) a
  simp only [W.all, List.count_append] at this
  omega

theorem Own.drops_count {w : W} (h : Own w) {id : Nat} (hm : id ∈ w.drops) : w.drops.count id = 1 := by
  have := own_count_le h id
  have := List.count_pos_iff.mpr hm
  omega

theorem own_init (ns : Nat) : Own (W.init ns) := by
  have ha : (W.init ns).all = [] := by simp [W.all, W.live, W.init, Slot.ids, Slot.cells]
  exact ⟨ha ▸ List.nodup_nil, ha ▸ .nil, nofun⟩

theorem applyEff_own (env : Env) (e : Eff) (w : W) (ho : Own w) (hw : e.WF w) : Own (applyEff env e w) := by
  cases e with
  | nop a => exact ⟨ho.nodup, ho.conserv, ho.fresh⟩
  | upd s new nfresh fx alloc =>
    obtain ⟨old, hs, hp⟩ := hw
    have hcnt : ∀ a, (applyEff env (.upd s new nfresh fx alloc) w).all.count a
        = w.all.count a + (List.range' w.nextId nfresh).count a := by
      intro a
      have h1 := count_live_set w.slots s old new hs a
      have h2 := (List.perm_iff_count.mp hp) a
      simp only [W.all, W.live, applyEff, List.count_append] at h1 h2 ⊢
      omega
    have hfreshcnt : ∀ a, w.nextId ≤ a → w.all.count a = 0 := by
      intro a ha
      rw [← (List.perm_iff_count.mp ho.conserv) a]
      apply List.count_eq_zero.mpr
      intro hm; have := ho.fresh a hm; omega
    refine ⟨?_, ?_, ?_⟩
    · rw [List.nodup_iff_count]; intro a
      rw [hcnt a]
      have h1 := (List.nodup_iff_count.mp ho.nodup) a
      have h2 := (List.nodup_iff_count.mp (List.nodup_range' (s := w.nextId) (n := nfresh))) a
      by_cases ha : w.nextId ≤ a
      · rw [hfreshcnt a ha]; omega
      · have : (List.range' w.nextId nfresh).count a = 0 := by
          apply List.count_eq_zero.mpr; simp; omega
        omega
    · rw [List.perm_iff_count]; intro a
      rw [hcnt a]
      have := (List.perm_iff_count.mp ho.conserv) a
      simp only [applyEff, List.count_append]; omega
    · intro id hid
      simp only [applyEff, List.mem_append, List.mem_range'_1] at hid ⊢
      rcases hid with h | h
      · have := ho.fresh id h; omega
      · omega

theorem step_own (z : Bool) (env : Env) (op : Op) (w : W) (h : Own w) : Own (step z env op w) :=
  applyEff_own env _ w h (effOf_wf z op w)

theorem run_own (z : Bool) (prog : List (Env × Op)) (w : W) (h : Own w) : Own (run z prog w) := by
  induction prog generalizing w with
  | nil => exact h
  | cons eo rest ih => exact ih _ (step_own z eo.1 eo.2 w h)

theorem Slot.ids_of_cat_none {x : Slot} (h : x.cat = .none) : x.ids = [] := by
  cases x <;> first | rfl | cases h

theorem count_idsOf_cons (x : Slot) (xs : List Slot) (c : Cat) (a : Nat) :
    (((x :: xs).filter (·.cat == c)).flatMap Slot.ids).count a =
      (if x.cat = c then x.ids.count a else 0) + ((xs.filter (·.cat == c)).flatMap Slot.ids).count a := by
  rw [List.filter_cons]
  by_cases h : x.cat = c
  · rw [if_pos (beq_iff_eq.mpr h), if_pos h, List.flatMap_cons, List.count_append]
  · rw [if_neg (mt beq_iff_eq.mp h), if_neg h, Nat.zero_add]

theorem live_partition (w : W) : w.live.Perm (w.owned ++ w.escaped ++ w.leaked) := by
  rw [List.perm_iff_count]; intro a
  simp only [W.live, W.owned, W.escaped, W.leaked, W.idsOf, List.count_append]
  induction w.slots with
  | nil => rfl
  | cons x xs ih =>
    rw [List.flatMap_cons, List.count_append, count_idsOf_cons, count_idsOf_cons, count_idsOf_cons, ih]
    cases hc : x.cat with
    | none => rw [Slot.ids_of_cat_none hc]; simp
    | owned => simp only [reduceCtorEq, ↓reduceIte]; omega
    | escaped => simp only [reduceCtorEq, ↓reduceIte]; omega
    | leaked => simp only [reduceCtorEq, ↓reduceIte]; omega

theorem own_classes (w : W) (h : Own w) :
    (w.owned ++ w.escaped ++ w.leaked ++ w.drops ++ w.moved).Nodup ∧
    w.created.Perm (w.owned ++ w.escaped ++ w.leaked ++ w.drops ++ w.moved) := by
  have hp : w.all.Perm (w.owned ++ w.escaped ++ w.leaked ++ w.drops ++ w.moved) := by
    unfold W.all
    exact ((live_partition w).append_right w.drops).append_right w.moved
  exact ⟨hp.nodup_iff.mp h.nodup, h.conserv.trans hp⟩

end Bump.Bx
