import BumpVerif.Proofs.VecMore
import BumpVerif.Proofs.VecOwn
import BumpVerif.Proofs.VecReserve
/-!
# `extend` / `from_iter_in` / `extend_from_slice` / `clone` (vec.rs:605, 2021, 2151)

The push loop over the caller's iterator (any `size_hint`, panicking at any `next` call) and over
`slice.iter().cloned()` (a `Clone` that panics at any call).
-/
namespace Bump.V
open Bump

theorem newVec_rep (c : Cfg) : RepB c newVec [] :=
  ⟨⟨⟨[], rfl⟩, rfl, fun _ => rfl, by simp [newVec]⟩, by simp [newVec, USIZE], fun _ => by simp [newVec, USIZE]⟩

theorem extend_unfold (c : Cfg) (v : VS) (it : It) (w : W) :
    extend c v it w =
      let r := extendRef c v it w
      (r.1, r.2.1.dropRest c r.2.2.1, if r.2.2.2 then some () else none) := by
  unfold extend
  generalize extendRef c v it w = r
  rcases r with ⟨v1, it1, w1, ok⟩
  rfl

theorem extendRef_unfold (c : Cfg) (v : VS) (it : It) (w : W) :
    extendRef c v it w =
      match rawReserve c v v.len it.hintLo with
      | none => (v, it, w, false)
      | some v1 => extendLoop c (it.remaining + 1) v1 it w := rfl

theorem src_next_panic (c : Cfg) (w : W) (s : Src) (h : s.panicAt = some s.calls) :
    It.next c w (.src s) = (w, .src { s with calls := s.calls + 1, panicAt := none }, none) := by
  simp [It.next, h]

theorem src_next_nil (c : Cfg) (w : W) (s : Src) (h : ¬ s.panicAt = some s.calls) (hi : s.items = []) :
    It.next c w (.src s) = (w, .src { s with calls := s.calls + 1 }, some none) := by
  simp [It.next, h, hi]

theorem src_next_cons (c : Cfg) (w : W) (s : Src) (e : Elem) (r : List Elem) (h : ¬ s.panicAt = some s.calls)
    (hi : s.items = e :: r) :
    It.next c w (.src s) = (w, .src { s with items := r, consumed := s.consumed + 1, calls := s.calls + 1 }, some (some e)) := by
  simp [It.next, h, hi]

/-- the loop `for t in iter { self.push(t) }` over the caller's iterator; `m = 1`: the item of a refused `push`,
dropped by the unwinding -/
theorem extendLoop_src_spec {c : Cfg} (hc : CfgOK c) (N : Nat) :
    ∀ (fuel : Nat) (v : VS) (s : Src) (w : W) (ys : List Elem), RepB c v ys → s.items.length < fuel →
      ∃ (j m : Nat) (v' : VS) (s' : Src) (w' : W) (ok : Bool),
        extendLoop c fuel v (.src s) w = (v', .src s', w', ok) ∧ RepB c v' (ys ++ s.items.take j) ∧
        j + m ≤ s.items.length ∧ s'.items = s.items.drop (j + m) ∧
        w'.evs = w.evs ++ dropEvs c ((s.items.drop j).take m) ∧ w'.bad = w.bad ∧ w'.nextId = w.nextId ∧
        (ok = true → j = s.items.length ∧ m = 0) ∧
        (s.panicAt = none → GrowOK c N → ys.length + s.items.length ≤ N → ok = true) := by
  intro fuel
  induction fuel with
  | zero => intro v s w ys _ hf; omega
  | succ f ih =>
    intro v s w ys hr hf
    by_cases hp : s.panicAt = some s.calls
    · refine ⟨0, 0, v, { s with calls := s.calls + 1, panicAt := none }, w, false, by simp only [extendLoop, src_next_panic c w s hp], by simpa using hr, Nat.zero_le _, rfl,
        by simp [dropEvs], rfl, rfl, by simp, fun hn => by rw [hn] at hp; cases hp⟩
    · cases hit : s.items with
      | nil =>
        refine ⟨0, 0, v, { s with calls := s.calls + 1 }, w, true, by simp only [extendLoop, src_next_nil c w s hp hit], by simpa using hr, Nat.le_refl _, hit,
          by simp [dropEvs], rfl, rfl, fun _ => ⟨rfl, rfl⟩, fun _ _ _ => rfl⟩
      | cons e r =>
        have hnext := src_next_cons c w s e r hp hit
        rw [hit] at hf
        rcases push_spec hc hr e w with ⟨v1, hpush, hr1⟩ | ⟨hpush, _, hres⟩
        · obtain ⟨j, m, v', s', w', ok, hrun, hrep, hjm, hs', hev, hb, hn, hok, hgood⟩ :=
            ih v1 { s with items := r, consumed := s.consumed + 1, calls := s.calls + 1 } w (ys ++ [e]) hr1
              (Nat.lt_of_succ_lt_succ hf)
          refine ⟨j + 1, m, v', s', w', ok, by simp only [extendLoop, hnext, hpush]; exact hrun,
            by rw [List.append_assoc] at hrep; exact hrep, by simp only [List.length_cons] at hjm ⊢; omega,
            by rw [hs', Nat.add_right_comm]; rfl, hev, hb, hn, fun h => by simpa using hok h, fun hn' hg hN => hgood hn' hg ?_⟩
          simp only [List.length_append, List.length_cons, List.length_nil] at hN ⊢; omega
        · refine ⟨0, 1, v, { s with items := r, consumed := s.consumed + 1, calls := s.calls + 1 }, (dropElem c w e).1, false,
            by simp only [extendLoop, hnext, hpush], by simpa using hr, by simp, rfl,
            by rw [dropElem_evs]; simp, dropElem_bad c w e, dropElem_nextId c w e, by simp, fun _ hg hN => ?_⟩
          exact absurd hres (hr.reserve_grow hc hg (by simp only [List.length_cons] at hN; omega))

/-- `Extend::extend(iter.by_ref())`: reserve the lower size hint (whatever it claims), then push -/
theorem extendRef_src_spec {c : Cfg} (hc : CfgOK c) (N : Nat) {v : VS} {ys : List Elem} (hr : RepB c v ys) (s : Src) (w : W) :
    ∃ (j m : Nat) (v' : VS) (s' : Src) (w' : W) (ok : Bool),
      extendRef c v (.src s) w = (v', .src s', w', ok) ∧ RepB c v' (ys ++ s.items.take j) ∧
      j + m ≤ s.items.length ∧ s'.items = s.items.drop (j + m) ∧
      w'.evs = w.evs ++ dropEvs c ((s.items.drop j).take m) ∧ w'.bad = w.bad ∧ w'.nextId = w.nextId ∧
      (ok = true → j = s.items.length ∧ m = 0) ∧
      (s.panicAt = none → GrowOK c N → ys.length + s.items.length ≤ N → ys.length + (s.hint - s.consumed) ≤ N → ok = true) := by
  rw [extendRef_unfold]
  cases hres : rawReserve c v v.len (It.src s).hintLo with
  | none =>
    exact ⟨0, 0, v, s, w, false, rfl, by simpa using hr, Nat.zero_le _, rfl, by simp [dropEvs], rfl, rfl, by simp,
      fun _ hg _ hN => absurd hres (hr.reserve_grow hc hg hN)⟩
  | some v1 =>
    obtain ⟨j, m, v', s', w', ok, hrun, hrep, hjm, hs', hev, hb, hn, hok, hgood⟩ :=
      extendLoop_src_spec hc N ((It.src s).remaining + 1) v1 s w ys (rawReserve_some hc hr hres).1 (Nat.lt_succ_self _)
    exact ⟨j, m, v', s', w', ok, hrun, hrep, hjm, hs', hev, hb, hn, hok, fun a b d _ => hgood a b d⟩

theorem extend_src_spec {c : Cfg} (hc : CfgOK c) (N : Nat) {v : VS} {xs : List Elem} (h : RepB c v xs) (s : Src) (w : W) :
    ∃ (j : Nat) (v' : VS) (w' : W) (r : Option Unit), extend c v (.src s) w = (v', w', r) ∧ j ≤ s.items.length ∧
      RepB c v' (xs ++ s.items.take j) ∧ w'.evs = w.evs ++ dropEvs c (s.items.drop j) ∧ w'.bad = w.bad ∧ w'.nextId = w.nextId ∧
      (r = some () → j = s.items.length) ∧
      (s.panicAt = none → GrowOK c N → xs.length + s.items.length ≤ N → xs.length + (s.hint - s.consumed) ≤ N → r = some ()) := by
  obtain ⟨j, m, v', s', w', ok, hrun, hrep, hjm, hs', hev, hb, hn, hok, hgood⟩ := extendRef_src_spec hc N h s w
  refine ⟨j, v', (dropAll c s'.items w').1, if ok then some () else none, by rw [extend_unfold, hrun]; rfl, by omega, hrep, ?_,
    by rw [dropAll_bad, hb], by rw [dropAll_nextId, hn], ?_, fun a b d e => by rw [hgood a b d e]; rfl⟩
  · rw [dropAll_evs, hev, hs', List.append_assoc, ← dropEvs_append, ← List.drop_drop, List.take_append_drop]
  · cases ok with
    | true => exact fun _ => (hok rfl).1
    | false => exact fun hr => by cases hr

/-- `Vec::from_iter_in` / `collect_in` -/
theorem fromIter_spec {c : Cfg} (hc : CfgOK c) (N : Nat) (s : Src) (w : W) :
    ∃ (j : Nat) (r : Option VS) (w' : W), fromIter c (.src s) w = (r, w') ∧ j ≤ s.items.length ∧ w'.bad = w.bad ∧
      (∀ v', r = some v' → RepB c v' s.items ∧ w'.evs = w.evs) ∧
      (r = none → w'.evs = w.evs ++ dropEvs c (s.items.drop j) ++ dropEvs c (s.items.take j)) ∧
      (s.panicAt = none → GrowOK c N → s.items.length ≤ N → s.hint - s.consumed ≤ N → r ≠ none) := by
  obtain ⟨j, v', w', r, hrun, hj, hrep, hev, hb, _, hok, hgood⟩ := extend_src_spec hc N (newVec_rep c) s w
  unfold fromIter
  rw [hrun]
  cases r with
  | some u =>
    have hjl := hok rfl
    subst hjl
    refine ⟨_, some v', w', rfl, hj, hb, ?_, by simp, fun _ _ _ _ => by simp⟩
    intro v'' hv; cases hv
    exact ⟨by simpa using hrep, by simpa [dropEvs] using hev⟩
  | none =>
    refine ⟨j, none, (dropVec c v' w').1, rfl, hj, by rw [dropVec, dropAll_bad, hb], by simp,
      fun _ => by rw [dropVec_evs hrep w', hev]; rfl, fun a b d e => ?_⟩
    have := hgood a b (by simpa using d) (by simpa using e); cases this

theorem extend_own {c : Cfg} {v : VS} {xs : List Elem} {ins held : List Nat} (hc : CfgOK c) (hd : c.needsDrop = true)
    (h : RepB c v xs) (s : Src) (w : W) (ho : Own ins xs w.evs (ids s.items ++ held)) :
    ∃ ys, RepB c (extend c v (.src s) w).1 ys ∧ Own ins ys (extend c v (.src s) w).2.1.evs held := by
  obtain ⟨j, v', w', r, hrun, _, hrep, hev, _⟩ := extend_src_spec hc 0 h s w
  rw [hrun]
  exact ⟨_, hrep, by rw [hev]; exact ho.take_in hd j⟩

theorem fromIter_own {c : Cfg} {ins held : List Nat} (hc : CfgOK c) (hd : c.needsDrop = true)
    (s : Src) (w : W) (ho : Own ins [] w.evs (ids s.items ++ held)) :
    ∃ ys, (∀ v, (fromIter c (.src s) w).1 = some v → RepB c v ys) ∧ ((fromIter c (.src s) w).1 = none → ys = []) ∧
      Own ins ys (fromIter c (.src s) w).2.evs held := by
  obtain ⟨ys, hr, hown⟩ := extend_own hc hd (newVec_rep c) s w ho
  unfold fromIter
  generalize extend c newVec (.src s) w = r at hr hown
  rcases r with ⟨v1, w1, ok⟩
  cases ok with
  | some u => exact ⟨ys, fun v hv => by cases hv; exact hr, by simp, hown⟩
  | none => exact ⟨[], by simp, fun _ => rfl, dropVec_own hd hr w1 hown⟩

/-- what `Clone::clone` returns when the id counter stands at `n` -/
def cloneOne (c : Cfg) (n : Nat) (e : Elem) : Elem := if c.freshClone then ⟨n, e.val⟩ else e
def nextAfter (c : Cfg) (n : Nat) : Nat := if c.freshClone then n + 1 else n

def clonesFrom (c : Cfg) : Nat → List Elem → List Elem
  | _, [] => []
  | n, e :: r => cloneOne c n e :: clonesFrom c (nextAfter c n) r

theorem clonesFrom_length (c : Cfg) (n : Nat) (src : List Elem) : (clonesFrom c n src).length = src.length := by
  induction src generalizing n with
  | nil => rfl
  | cons e r ih => simp [clonesFrom, ih]

theorem clonesFrom_vals (c : Cfg) (n : Nat) (src : List Elem) : (clonesFrom c n src).map (·.val) = src.map (·.val) := by
  induction src generalizing n with
  | nil => rfl
  | cons e r ih =>
    simp only [clonesFrom, List.map_cons, ih]
    congr 1
    unfold cloneOne; split <;> rfl

theorem clonesFrom_replicate_vals (c : Cfg) (n k : Nat) (x : Elem) :
    (clonesFrom c n (List.replicate k x) ++ [x]).map (·.val) = List.replicate (k + 1) x.val := by
  rw [List.map_append, clonesFrom_vals, List.map_replicate, List.replicate_succ']
  rfl

theorem clonesFrom_ids (c : Cfg) (hf : c.freshClone = true) (n : Nat) (src : List Elem) :
    ids (clonesFrom c n src) = List.range' n src.length := by
  induction src generalizing n with
  | nil => rfl
  | cons e r ih => simp [clonesFrom, cloneOne, nextAfter, hf, ih, List.range'_succ]

theorem clonesFrom_take_all (c : Cfg) (n : Nat) {src : List Elem} {k : Nat} (hk : src.length ≤ k) :
    (clonesFrom c n src).take k = clonesFrom c n src :=
  List.take_of_length_le (by rw [clonesFrom_length]; exact hk)

theorem cloneElem_cases (c : Cfg) (w : W) (e : Elem) :
    (c.freshClone = true ∧ c.clonePanicAt = some w.cloneCalls ∧ cloneElem c w e = ({ w with cloneCalls := w.cloneCalls + 1 }, none)) ∨
    (∃ w1, cloneElem c w e = (w1, some (cloneOne c w.nextId e)) ∧ w1.evs = w.evs ∧ w1.bad = w.bad ∧ w1.nextId = nextAfter c w.nextId) := by
  by_cases hf : c.freshClone = true
  · by_cases hp : c.clonePanicAt = some w.cloneCalls
    · left; exact ⟨hf, hp, by simp [cloneElem, hf, hp]⟩
    · right
      refine ⟨{ w with cloneCalls := w.cloneCalls + 1, nextId := w.nextId + 1 }, ?_, rfl, rfl, by simp [nextAfter, hf]⟩
      simp [cloneElem, hf, hp, cloneOne]
  · right
    have hf' : c.freshClone = false := by simpa using hf
    exact ⟨w, by simp [cloneElem, hf', cloneOne], rfl, rfl, by simp [nextAfter, hf']⟩

/-- `Clone` does not panic during this call -/
def CloneOK (c : Cfg) : Prop := c.freshClone = true → c.clonePanicAt = none

/-- the push loop over `slice.iter().cloned()`; `m = 1`: the clone of a refused `push`, dropped -/
theorem extendLoop_cloned_spec {c : Cfg} (hc : CfgOK c) (N : Nat) :
    ∀ (fuel : Nat) (v : VS) (src : List Elem) (w : W) (ys : List Elem), RepB c v ys → src.length < fuel →
      ∃ (j m : Nat) (v' : VS) (r' : List Elem) (w' : W) (ok : Bool),
        extendLoop c fuel v (.cloned src) w = (v', .cloned r', w', ok) ∧
        RepB c v' (ys ++ (clonesFrom c w.nextId src).take j) ∧ j + m ≤ src.length ∧
        w'.evs = w.evs ++ dropEvs c (((clonesFrom c w.nextId src).drop j).take m) ∧ w'.bad = w.bad ∧
        w'.nextId = w.nextId + (if c.freshClone then j + m else 0) ∧
        (ok = true → j = src.length ∧ m = 0) ∧ (CloneOK c → GrowOK c N → ys.length + src.length ≤ N → ok = true) := by
  intro fuel
  induction fuel with
  | zero => intro v src w ys _ hf; omega
  | succ f ih =>
    intro v src w ys hr hf
    cases src with
    | nil =>
      exact ⟨0, 0, v, [], w, true, rfl, by simpa using hr, Nat.le_refl _, by simp [dropEvs], rfl, by simp,
        fun _ => ⟨rfl, rfl⟩, fun _ _ _ => rfl⟩
    | cons e r =>
      rcases cloneElem_cases c w e with ⟨hfc, hpa, hcl⟩ | ⟨w1, hcl, hev1, hb1, hn1⟩
      · exact ⟨0, 0, v, r, { w with cloneCalls := w.cloneCalls + 1 }, false, by simp only [extendLoop, It.next, hcl], by simpa using hr, Nat.zero_le _,
          by simp [dropEvs], rfl, by simp, by simp, fun hco => by rw [hco hfc] at hpa; cases hpa⟩
      · have hnext : It.next c w (.cloned (e :: r)) = (w1, .cloned r, some (some (cloneOne c w.nextId e))) := by
          simp only [It.next, hcl]
        have hn1' : w1.nextId = w.nextId + (if c.freshClone then 1 else 0) := by rw [hn1, nextAfter]; split <;> rfl
        rcases push_spec hc hr (cloneOne c w.nextId e) w1 with ⟨v1, hpush, hr1⟩ | ⟨hpush, _, hres⟩
        · obtain ⟨j, m, v', r', w', ok, hrun, hrep, hjm, hev, hb, hn, hok, hgood⟩ :=
            ih v1 r w1 (ys ++ [cloneOne c w.nextId e]) hr1 (Nat.lt_of_succ_lt_succ hf)
          rw [hn1] at hrep hev
          refine ⟨j + 1, m, v', r', w', ok, by simp only [extendLoop, hnext, hpush]; exact hrun,
            by rw [List.append_assoc] at hrep; exact hrep, by simp only [List.length_cons]; omega,
            by rw [hev, hev1]; rfl, by rw [hb, hb1], by rw [hn, hn1']; split <;> omega, fun h => by simpa using hok h,
            fun hco hg hN => hgood hco hg ?_⟩
          simp only [List.length_append, List.length_cons, List.length_nil] at hN ⊢; omega
        · refine ⟨0, 1, v, r, (dropElem c w1 (cloneOne c w.nextId e)).1, false, by simp only [extendLoop, hnext, hpush],
            by simpa using hr, by simp, by rw [dropElem_evs, hev1]; rfl, by rw [dropElem_bad c w1 _, hb1],
            by rw [dropElem_nextId c w1 _, hn1'], by simp, fun _ hg hN => ?_⟩
          exact absurd hres (hr.reserve_grow hc hg (by simp only [List.length_cons] at hN; omega))

/-- `extend_from_slice(&other)` -/
theorem extend_cloned_spec {c : Cfg} (hc : CfgOK c) (N : Nat) {v : VS} {xs : List Elem} (h : RepB c v xs) (src : List Elem) (w : W) :
    ∃ (j m : Nat) (v' : VS) (w' : W) (r : Option Unit), extend c v (.cloned src) w = (v', w', r) ∧ j + m ≤ src.length ∧
      RepB c v' (xs ++ (clonesFrom c w.nextId src).take j) ∧
      w'.evs = w.evs ++ dropEvs c (((clonesFrom c w.nextId src).drop j).take m) ∧ w'.bad = w.bad ∧
      w'.nextId = w.nextId + (if c.freshClone then j + m else 0) ∧
      (r = some () → j = src.length ∧ m = 0) ∧ (CloneOK c → GrowOK c N → xs.length + src.length ≤ N → r = some ()) := by
  rw [extend_unfold, extendRef_unfold]
  cases hres : rawReserve c v v.len (It.cloned src).hintLo with
  | none =>
    exact ⟨0, 0, v, w, none, rfl, Nat.zero_le _, by simpa using h, by simp [dropEvs], rfl, by simp, by simp,
      fun _ hg hN => absurd hres (h.reserve_grow hc hg hN)⟩
  | some v1 =>
    obtain ⟨j, m, v', r', w', ok, hrun, hrep, hjm, hev, hb, hn, hok, hgood⟩ :=
      extendLoop_cloned_spec hc N ((It.cloned src).remaining + 1) v1 src w xs (rawReserve_some hc h hres).1 (Nat.lt_succ_self _)
    refine ⟨j, m, v', w', if ok then some () else none, by simp only [hrun, It.dropRest], hjm, hrep, hev, hb, hn, ?_,
      fun a b d => by rw [hgood a b d]; rfl⟩
    cases ok with
    | true => exact fun _ => hok rfl
    | false => exact fun hr => by cases hr

/-- `Clone::clone` of the vector -/
theorem cloneVec_spec {c : Cfg} (hc : CfgOK c) (N : Nat) {v : VS} {xs : List Elem} (h : RepB c v xs) (w : W) :
    ∃ (r : Option VS) (w' : W), cloneVec c v w = (r, w') ∧ w'.bad = w.bad ∧
      (∀ nv, r = some nv → RepB c nv (clonesFrom c w.nextId xs) ∧ w'.evs = w.evs) ∧
      (r = none → ∃ j m, j + m ≤ xs.length ∧ w'.evs = w.evs ++ dropEvs c (((clonesFrom c w.nextId xs).drop j).take m) ++
        dropEvs c ((clonesFrom c w.nextId xs).take j)) ∧
      (CloneOK c → GrowOK c N → xs.length ≤ N → withCapacity c xs.length ≠ none → r ≠ none) := by
  have hlenU : xs.length < USIZE := by have := h.lenCap; have := capOf_lt c v h.capLt; have := h.len; omega
  unfold cloneVec
  rw [h.len, show v.owned = xs from h.toRep.abs_eq]
  cases hwc : withCapacity c xs.length with
  | none => exact ⟨none, w, rfl, rfl, by simp, fun _ => ⟨0, 0, Nat.zero_le _, by simp [dropEvs]⟩, fun _ _ _ hne => absurd rfl hne⟩
  | some n =>
    obtain ⟨j, m, v', w', r, hrun, hjm, hrep, hev, hb, _, hok, hgood⟩ :=
      extend_cloned_spec hc N (withCapacity_some hc hlenU hwc).1 xs w
    simp only [hrun]
    cases r with
    | some u =>
      obtain ⟨hj, hm⟩ := hok rfl
      subst hj hm
      refine ⟨some v', w', rfl, hb, ?_, by simp, fun _ _ _ _ => by simp⟩
      intro nv hnv; cases hnv
      exact ⟨by simpa [clonesFrom_take_all c _ (Nat.le_refl _)] using hrep, by simpa [dropEvs] using hev⟩
    | none =>
      refine ⟨none, (dropVec c v' w').1, rfl, by rw [dropVec, dropAll_bad, hb], by simp,
        fun _ => ⟨j, m, hjm, by rw [dropVec_evs hrep, hev]; rfl⟩, fun a b d _ => ?_⟩
      have := hgood a b (by simpa using d); cases this

/-- all ids created so far are below the counter the next clone takes its id from -/
def Fresh (ins : List Nat) (n : Nat) : Prop := ∀ i ∈ ins, i < n

theorem Own.clones {c : Cfg} {ins held : List Nat} {ys : List Elem} {evs : List Ev} {n : Nat} (hd : c.needsDrop = true)
    (hf : c.freshClone = true) (ho : Own ins ys evs held) (hfr : Fresh ins n) (src : List Elem) {j m : Nat} (hjm : j + m ≤ src.length) :
    ∃ ins', Own ins' (ys ++ (clonesFrom c n src).take j) (evs ++ dropEvs c (((clonesFrom c n src).drop j).take m)) held ∧
      Fresh ins' (n + (j + m)) := by
  have hjm' : ids ((clonesFrom c n src).take j) ++ ids (((clonesFrom c n src).drop j).take m) = List.range' n (j + m) := by
    rw [← ids_append, ← List.take_add, ids, List.map_take, ← ids, clonesFrom_ids c hf, List.take_range'_of_length_ge (by omega)]
  refine ⟨List.range' n (j + m) ++ ins, ⟨?_, ?_⟩, ?_⟩
  · rw [List.perm_iff_count]
    intro a
    have := List.perm_iff_count.mp ho.1 a
    have hnew := congrArg (List.count a) hjm'
    simp only [ids_append, evDrops_append, evMoved_append, evDrops_dropEvs c hd, evMoved_dropEvs, List.count_append, List.count_nil] at this hnew ⊢
    omega
  · refine List.nodup_append.mpr ⟨List.nodup_range', ho.2, fun a ha b hb hab => ?_⟩
    have := (List.mem_range'_1.mp ha).1
    have := hfr b hb
    omega
  · intro i hi
    rcases List.mem_append.mp hi with h | h
    · exact (List.mem_range'_1.mp h).2
    · have := hfr i h; omega

theorem extend_cloned_own {c : Cfg} {v : VS} {xs : List Elem} {ins held : List Nat} (hc : CfgOK c) (hd : c.needsDrop = true)
    (hf : c.freshClone = true) (h : RepB c v xs) (src : List Elem) (w : W) (ho : Own ins xs w.evs held) (hfr : Fresh ins w.nextId) :
    ∃ ys ins', RepB c (extend c v (.cloned src) w).1 ys ∧ Own ins' ys (extend c v (.cloned src) w).2.1.evs held ∧
      Fresh ins' (extend c v (.cloned src) w).2.1.nextId := by
  obtain ⟨j, m, v', w', r, hrun, hjm, hrep, hev, _, hn, _⟩ := extend_cloned_spec hc 0 h src w
  obtain ⟨ins', ho', hfr'⟩ := ho.clones hd hf hfr src hjm
  rw [hrun]
  exact ⟨_, ins', hrep, by rw [hev]; exact ho', by rw [hn, if_pos hf]; exact hfr'⟩

theorem cloneVec_own {c : Cfg} {v : VS} {xs : List Elem} {ins held : List Nat} (hc : CfgOK c) (hd : c.needsDrop = true)
    (hf : c.freshClone = true) (h : RepB c v xs) (w : W) (ho : Own ins xs w.evs held) (hfr : Fresh ins w.nextId) :
    ∃ ys ins', (∀ nv, (cloneVec c v w).1 = some nv → RepB c nv ys) ∧ ((cloneVec c v w).1 = none → ys = []) ∧
      Own ins' (xs ++ ys) (cloneVec c v w).2.evs held ∧ Fresh ins' (cloneVec c v w).2.nextId := by
  have hlenU : v.len < USIZE := by have := h.lenCap; have := capOf_lt c v h.capLt; omega
  unfold cloneVec
  cases hwc : withCapacity c v.len with
  | none => exact ⟨[], ins, by simp, fun _ => rfl, by simpa using ho, hfr⟩
  | some n =>
    -- the original's elements count as held elsewhere while the new vector is built
    obtain ⟨ys, ins', hr, ho', hfr'⟩ :=
      extend_cloned_own (held := ids xs ++ held) hc hd hf (withCapacity_some hc hlenU hwc).1 v.owned w ho.release hfr
    simp only
    generalize extend c n (.cloned v.owned) w = r at hr ho' hfr'
    rcases r with ⟨n1, w1, ok⟩
    cases ok with
    | some u =>
      refine ⟨ys, ins', fun nv hnv => by cases hnv; exact hr, by simp, ?_, hfr'⟩
      apply ho'.of_count; intro a; simp only [ids_append, List.count_append]; omega
    | none =>
      refine ⟨[], ins', by simp, fun _ => rfl, ?_, by simp only [dropVec, dropAll_nextId]; exact hfr'⟩
      apply (dropVec_own hd hr w1 ho').of_count
      intro a; simp only [ids_nil, List.count_append, List.count_nil, List.append_nil]; omega

end Bump.V
