import BumpVerif.Proofs.StrOps
/-!
# `drain` and `replace_range`: ranges on char boundaries; the unchecked `n + 1` (F7)
-/
namespace Bump.Str

theorem encode3 (l₁ l₂ l₃ : List Char) : encode (l₁ ++ l₂ ++ l₃) = encode l₁ ++ encode l₂ ++ encode l₃ := by
  simp [encode_append]

theorem take_encode3 (l₁ l₂ l₃ : List Char) : (encode (l₁ ++ l₂ ++ l₃)).take (encode l₁).length = encode l₁ := by
  rw [encode3, List.append_assoc]; exact List.take_left' rfl

theorem drop_encode3 (l₁ l₂ l₃ : List Char) :
    (encode (l₁ ++ l₂ ++ l₃)).drop ((encode l₁).length + (encode l₂).length) = encode l₃ := by
  rw [encode3]; exact List.drop_left' (by rw [List.length_append])

theorem sliceOk_split (l₁ l₂ l₃ : List Char) :
    sliceOk (encode (l₁ ++ l₂ ++ l₃)) (encode l₁).length ((encode l₁).length + (encode l₂).length) = true := by
  have h1 := boundary_of_split l₁ (l₂ ++ l₃)
  have h2 := boundary_of_split (l₁ ++ l₂) l₃
  rw [← List.append_assoc] at h1
  rw [encode_append l₁ l₂, List.length_append] at h2
  simp only [sliceOk, h1, h2, Nat.le_add_right, decide_true, Bool.and_self]

theorem sliceOk_exists {s : Bytes} (hv : Valid s) {a b : Nat} (h : sliceOk s a b = true) :
    ∃ l₁ l₂ l₃, s = encode (l₁ ++ l₂ ++ l₃) ∧ a = (encode l₁).length ∧ b = a + (encode l₂).length := by
  obtain ⟨L, rfl⟩ := hv
  simp only [sliceOk, Bool.and_eq_true, decide_eq_true_eq] at h
  obtain ⟨⟨hab, ha⟩, hb⟩ := h
  obtain ⟨k, -, rfl⟩ := (boundary_iff L a).mp ha
  obtain ⟨k', -, rfl⟩ := (boundary_iff L b).mp hb
  have grow (i d : Nat) : (encode (L.take (i + d))).length
      = (encode (L.take i)).length + (encode ((L.drop i).take d)).length := by
    rw [List.take_add, encode_append, List.length_append]
  by_cases hkk : k ≤ k'
  · obtain ⟨d, rfl⟩ := Nat.exists_eq_add_of_le hkk
    exact ⟨L.take k, (L.drop k).take d, L.drop (k + d), by rw [← List.take_add, List.take_append_drop], rfl, grow k d⟩
  · -- then the two prefixes have the same length: use the empty middle
    obtain ⟨d, rfl⟩ := Nat.exists_eq_add_of_le (Nat.le_of_not_le hkk)
    have := grow k' d
    exact ⟨L.take k', [], L.drop k', by simp, by omega, by simp; omega⟩

theorem drainCore_split (l₁ l₂ l₃ : List Char) (take back : Nat) (forget : Bool) :
    drainCore (encode (l₁ ++ l₂ ++ l₃)) (encode l₁).length ((encode l₁).length + (encode l₂).length) take back forget
      = .ok ⟨if forget then encode (l₁ ++ l₂ ++ l₃) else encode (l₁ ++ l₃), l₂.take take,
             ((l₂.drop take).reverse).take back⟩ := by
  have hs := sliceOk_split l₁ l₂ l₃
  have hmid : ((encode (l₁ ++ l₂ ++ l₃)).drop (encode l₁).length).take
      ((encode l₁).length + (encode l₂).length - (encode l₁).length) = encode l₂ := by
    rw [encode3, List.append_assoc, List.drop_left' rfl, Nat.add_sub_cancel_left, List.take_left' rfl]
  have hle : (encode l₁).length ≤ (encode l₁).length + (encode l₂).length ∧
      (encode l₁).length + (encode l₂).length ≤ (encode (l₁ ++ l₂ ++ l₃)).length := by
    rw [encode3]; simp only [List.length_append]; omega
  simp only [drainCore, hs, Bool.not_true, Bool.false_eq_true, if_false, hmid, decodeAll_encode, hle, and_self,
    if_true, take_encode3, drop_encode3]
  cases forget <;> simp [encode_append]

theorem drainCore_panic_iff (s : Bytes) (a b take back : Nat) (forget : Bool) (hv : Valid s) :
    drainCore s a b take back forget = .panic ↔ sliceOk s a b = false := by
  by_cases h : sliceOk s a b = true
  · obtain ⟨l₁, l₂, l₃, rfl, rfl, rfl⟩ := sliceOk_exists hv h
    rw [drainCore_split, h]; simp
  · simp [drainCore, h]

def BdOk : Bd → Prop
  | .incl n => n + 1 < USIZE
  | .excl n => n + 1 < USIZE
  | .unbounded => True

def bdStart : Bd → Nat
  | .incl n => n
  | .excl n => n + 1
  | .unbounded => 0

def bdEnd (len : Nat) : Bd → Nat
  | .incl n => n + 1
  | .excl n => n
  | .unbounded => len

theorem addOne_lt (ovf : Bool) (n : Nat) (h : n + 1 < USIZE) : addOne ovf n = .ok (n + 1) := by
  simp [addOne, h]

theorem addOne_checked_of_max {n : Nat} (hn : ¬ n + 1 < USIZE) : addOne true n = .panic := by
  simp [addOne, hn]

/-- **F7**: at `usize::MAX` the source's `n + 1` wraps to 0 when overflow checks are off … -/
theorem addOne_wraps : addOne false (USIZE - 1) = .ok 0 := by decide
/-- … and panics when they are on (what `std` does in every profile). -/
theorem addOne_checked : addOne true (USIZE - 1) = .panic := addOne_checked_of_max (by decide)

theorem addOne_cases (o : Bool) (n : Nat) : addOne o n = .panic ∨ ∃ m, addOne o n = .ok m := by
  unfold addOne
  split
  · exact .inr ⟨_, rfl⟩
  · split
    · exact .inl rfl
    · exact .inr ⟨_, rfl⟩

theorem eq_of_addOne_ok {o : Bool} {n m : Nat} (h : addOne o n = .ok m) : m = if n + 1 < USIZE then n + 1 else 0 := by
  unfold addOne at h
  by_cases hc : n + 1 < USIZE
  · rw [if_pos hc] at h ⊢; cases h; rfl
  · rw [if_neg hc] at h ⊢; cases o <;> cases h; rfl

theorem addOne_agree {o₁ o₂ : Bool} {n m₁ m₂ : Nat} (h1 : addOne o₁ n = .ok m₁) (h2 : addOne o₂ n = .ok m₂) :
    m₁ = m₂ :=
  (eq_of_addOne_ok h1).trans (eq_of_addOne_ok h2).symm

theorem rangeStart_cases (o : Bool) (sb : Bd) : rangeStart o sb = .panic ∨ ∃ a, rangeStart o sb = .ok a := by
  cases sb with
  | incl n => exact .inr ⟨n, rfl⟩
  | excl n => exact addOne_cases o n
  | unbounded => exact .inr ⟨0, rfl⟩

theorem rangeEnd_cases (o : Bool) (len : Nat) (eb : Bd) : rangeEnd o len eb = .panic ∨ ∃ b, rangeEnd o len eb = .ok b := by
  cases eb with
  | incl n => exact addOne_cases o n
  | excl n => exact .inr ⟨n, rfl⟩
  | unbounded => exact .inr ⟨len, rfl⟩

theorem drainWith_cases (o : Bool) (s : Bytes) (sb eb : Bd) (take back : Nat) (forget : Bool) :
    drainWith o s sb eb take back forget = .panic ∨
      ∃ a b, drainWith o s sb eb take back forget = drainCore s a b take back forget := by
  unfold drainWith
  rcases rangeStart_cases o sb with h1 | ⟨a, h1⟩
  · rw [h1]; exact .inl rfl
  · rcases rangeEnd_cases o s.length eb with h2 | ⟨b, h2⟩
    · rw [h1, h2]; exact .inl rfl
    · rw [h1, h2]; exact .inr ⟨a, b, rfl⟩

theorem drainCore_valid {s : Bytes} (hv : Valid s) (a b take back : Nat) (forget : Bool) :
    drainCore s a b take back forget = .panic ∨
      ∃ r, drainCore s a b take back forget = .ok r ∧ Valid r.bytes := by
  by_cases h : sliceOk s a b = true
  · obtain ⟨l₁, l₂, l₃, rfl, rfl, rfl⟩ := sliceOk_exists hv h
    right
    refine ⟨_, drainCore_split l₁ l₂ l₃ take back forget, ?_⟩
    cases forget <;> exact Valid_encode _
  · left; exact (drainCore_panic_iff s a b take back forget hv).mpr (by simpa using h)

theorem drain_valid (ovf : Bool) {s : Bytes} (hv : Valid s) (sb eb : Bd) (take back : Nat) (forget : Bool) :
    drain ovf s sb eb take back forget = .panic ∨
      ∃ r, drain ovf s sb eb take back forget = .ok r ∧ Valid r.bytes := by
  unfold drain
  rcases drainWith_cases (drainOvf ovf) s sb eb take back forget with h | ⟨a, b, h⟩
  · exact .inl h
  · rw [h]; exact drainCore_valid hv a b take back forget

theorem spliceBytes_cases (o : Bool) (s : Bytes) (sb eb : Bd) (t : Bytes) :
    spliceBytes o s sb eb t = .panic ∨ ∃ r, spliceBytes o s sb eb t = .ok r := by
  unfold spliceBytes
  split
  · split
    · split
      · exact .inr ⟨_, rfl⟩
      · exact .inl rfl
    · exact .inl rfl
  · exact .inl rfl

theorem startAssert_cases (o : Bool) (s : Bytes) (sb : Bd) : startAssert o s sb = .panic ∨ startAssert o s sb = .ok () := by
  cases sb with
  | incl n => by_cases hb : isCharBoundary s n = true <;> simp [startAssert, hb]
  | excl n =>
    rcases addOne_cases o n with h | ⟨m, h⟩
    · rw [startAssert, h]; exact .inl rfl
    · by_cases hb : isCharBoundary s m = true <;> simp [startAssert, h, hb]
  | unbounded => exact .inr rfl

theorem endAssert_cases (o : Bool) (s : Bytes) (eb : Bd) : endAssert o s eb = .panic ∨ endAssert o s eb = .ok () := by
  cases eb with
  | excl n => by_cases hb : isCharBoundary s n = true <;> simp [endAssert, hb]
  | incl n =>
    rcases addOne_cases o n with h | ⟨m, h⟩
    · rw [endAssert, h]; exact .inl rfl
    · by_cases hb : isCharBoundary s m = true <;> simp [endAssert, h, hb]
  | unbounded => exact .inr rfl

theorem rangeStart_ok (ovf : Bool) (sb : Bd) (h : BdOk sb) : rangeStart ovf sb = .ok (bdStart sb) := by
  cases sb with
  | incl n => rfl
  | excl n => exact addOne_lt ovf n h
  | unbounded => rfl

theorem rangeEnd_ok (ovf : Bool) (len : Nat) (eb : Bd) (h : BdOk eb) : rangeEnd ovf len eb = .ok (bdEnd len eb) := by
  cases eb with
  | incl n => exact addOne_lt ovf n h
  | excl n => rfl
  | unbounded => rfl

theorem drainWith_eq_core (o : Bool) (s : Bytes) (sb eb : Bd) (take back : Nat) (forget : Bool)
    (hs : BdOk sb) (he : BdOk eb) :
    drainWith o s sb eb take back forget = drainCore s (bdStart sb) (bdEnd s.length eb) take back forget := by
  simp [drainWith, rangeStart_ok _ _ hs, rangeEnd_ok _ _ _ he]

theorem drain_eq_core (ovf : Bool) (s : Bytes) (sb eb : Bd) (take back : Nat) (forget : Bool)
    (hs : BdOk sb) (he : BdOk eb) :
    drain ovf s sb eb take back forget = drainCore s (bdStart sb) (bdEnd s.length eb) take back forget :=
  drainWith_eq_core _ s sb eb take back forget hs he

theorem startAssert_ok (ovf : Bool) (s : Bytes) (sb : Bd) (h : BdOk sb) :
    startAssert ovf s sb = if isCharBoundary s (bdStart sb) then .ok () else .panic := by
  cases sb with
  | incl n => rfl
  | excl n => simp only [startAssert, bdStart, addOne_lt _ _ h] <;> rfl
  | unbounded => simp [startAssert, bdStart, isCharBoundary_zero]

theorem endAssert_ok (ovf : Bool) (s : Bytes) (eb : Bd) (h : BdOk eb) :
    endAssert ovf s eb = if isCharBoundary s (bdEnd s.length eb) then .ok () else .panic := by
  cases eb with
  | incl n => simp only [endAssert, bdEnd, addOne_lt _ _ h] <;> rfl
  | excl n => rfl
  | unbounded => simp [endAssert, bdEnd, isCharBoundary_length]

theorem assert_ok {c : Bool} (h : (if c = true then Outcome.ok () else .panic) = .ok ()) : c = true := by
  cases c
  · cases h
  · rfl

theorem startAssert_boundary {o₁ o₂ : Bool} {s : Bytes} {sb : Bd} {a : Nat}
    (h1 : startAssert o₁ s sb = .ok ()) (h2 : rangeStart o₂ sb = .ok a) : isCharBoundary s a = true := by
  cases sb with
  | incl n => cases h2; exact assert_ok h1
  | excl n =>
    cases hm : addOne o₁ n with
    | ok m => rw [startAssert, hm] at h1; cases addOne_agree hm h2; exact assert_ok h1
    | _ => rw [startAssert, hm] at h1; cases h1
  | unbounded => cases h2; exact isCharBoundary_zero s

theorem endAssert_boundary {o₁ o₂ : Bool} {s : Bytes} {eb : Bd} {b : Nat}
    (h1 : endAssert o₁ s eb = .ok ()) (h2 : rangeEnd o₂ s.length eb = .ok b) : isCharBoundary s b = true := by
  cases eb with
  | excl n => cases h2; exact assert_ok h1
  | incl n =>
    cases hm : addOne o₁ n with
    | ok m => rw [endAssert, hm] at h1; cases addOne_agree hm h2; exact assert_ok h1
    | _ => rw [endAssert, hm] at h1; cases h1
  | unbounded => cases h2; exact isCharBoundary_length s

theorem replaceRangeWith_cases (o₁ o₂ : Bool) (s : Bytes) (sb eb : Bd) (t : Bytes) :
    replaceRangeWith o₁ o₂ s sb eb t = .panic ∨
      ∃ a b, sliceOk s a b = true ∧ replaceRangeWith o₁ o₂ s sb eb t = .ok (s.take a ++ t ++ s.drop b) := by
  unfold replaceRangeWith
  rcases startAssert_cases o₁ s sb with h1 | h1
  · rw [h1]; exact .inl rfl
  rcases endAssert_cases o₁ s eb with h2 | h2
  · rw [h1, h2]; exact .inl rfl
  rw [h1, h2]
  unfold spliceBytes
  rcases rangeStart_cases o₂ sb with h3 | ⟨a, h3⟩
  · rw [h3]; exact .inl rfl
  rcases rangeEnd_cases o₂ s.length eb with h4 | ⟨b, h4⟩
  · rw [h3, h4]; exact .inl rfl
  rw [h3, h4]
  by_cases hab : a ≤ b ∧ b ≤ s.length
  · refine .inr ⟨a, b, ?_, if_pos hab⟩
    simp [sliceOk, startAssert_boundary h1 h3, endAssert_boundary h2 h4, hab.1]
  · exact .inl (if_neg hab)

theorem replaceRangeWith_eq (o₁ o₂ : Bool) (s : Bytes) (sb eb : Bd) (t : Bytes) (hs : BdOk sb) (he : BdOk eb) :
    replaceRangeWith o₁ o₂ s sb eb t =
      if isCharBoundary s (bdStart sb) = true ∧ isCharBoundary s (bdEnd s.length eb) = true
          ∧ bdStart sb ≤ bdEnd s.length eb
      then .ok (s.take (bdStart sb) ++ t ++ s.drop (bdEnd s.length eb)) else .panic := by
  unfold replaceRangeWith spliceBytes
  rw [startAssert_ok _ _ _ hs, endAssert_ok _ _ _ he, rangeStart_ok _ _ hs, rangeEnd_ok _ _ _ he]
  by_cases hA : isCharBoundary s (bdStart sb) = true
  · by_cases hB : isCharBoundary s (bdEnd s.length eb) = true
    · have := isCharBoundary_le hB
      simp only [hA, hB, if_true, true_and, this, and_true]
    · simp [hA, hB]
  · simp [hA]

theorem replaceRange_eq (ovf : Bool) (s : Bytes) (sb eb : Bd) (t : Bytes) (hs : BdOk sb) (he : BdOk eb) :
    replaceRange ovf s sb eb t =
      if isCharBoundary s (bdStart sb) = true ∧ isCharBoundary s (bdEnd s.length eb) = true
          ∧ bdStart sb ≤ bdEnd s.length eb
      then .ok (s.take (bdStart sb) ++ t ++ s.drop (bdEnd s.length eb)) else .panic :=
  replaceRangeWith_eq _ _ s sb eb t hs he

theorem replaceRange_valid (ovf : Bool) {s : Bytes} (hv : Valid s) (sb eb : Bd) (t : List Char) :
    replaceRange ovf s sb eb (encode t) = .panic ∨
      ∃ s', replaceRange ovf s sb eb (encode t) = .ok s' ∧ Valid s' := by
  rcases replaceRangeWith_cases (replaceOvf ovf) (vecDrainOvf ovf) s sb eb (encode t) with h | ⟨a, b, hs, h⟩
  · exact .inl h
  · obtain ⟨l₁, l₂, l₃, rfl, rfl, rfl⟩ := sliceOk_exists hv hs
    refine .inr ⟨_, h, ?_⟩
    rw [take_encode3, drop_encode3, ← encode_append, ← encode_append]
    exact Valid_encode _

theorem replaceRange_split (ovf : Bool) (l₁ l₂ l₃ : List Char) (sb eb : Bd) (t : Bytes)
    (hs : BdOk sb) (he : BdOk eb) (h1 : bdStart sb = (encode l₁).length)
    (h2 : bdEnd (encode (l₁ ++ l₂ ++ l₃)).length eb = (encode l₁).length + (encode l₂).length) :
    replaceRange ovf (encode (l₁ ++ l₂ ++ l₃)) sb eb t = .ok (encode l₁ ++ t ++ encode l₃) := by
  rw [replaceRange_eq _ _ _ _ _ hs he, h1, h2]
  have hs' := sliceOk_split l₁ l₂ l₃
  simp only [sliceOk, Bool.and_eq_true, decide_eq_true_eq] at hs'
  simp only [hs'.1.2, hs'.2, take_encode3, drop_encode3, and_self, Nat.le_add_right, if_true]

theorem drainWith_max (s : Bytes) (sb eb : Bd) (take back : Nat) (forget : Bool) {n : Nat} (hn : ¬ n + 1 < USIZE)
    (h : sb = .excl n ∨ eb = .incl n) : drainWith true s sb eb take back forget = .panic := by
  unfold drainWith
  rcases h with rfl | rfl
  · rw [rangeStart, addOne_checked_of_max hn]
  · rcases rangeStart_cases true sb with h | ⟨a, h⟩
    · rw [h]
    · rw [h, rangeEnd, addOne_checked_of_max hn]

theorem replaceRangeWith_max (o₂ : Bool) (s : Bytes) (sb eb : Bd) (t : Bytes) {n : Nat} (hn : ¬ n + 1 < USIZE)
    (h : sb = .excl n ∨ eb = .incl n) : replaceRangeWith true o₂ s sb eb t = .panic := by
  unfold replaceRangeWith
  rcases h with rfl | rfl
  · rw [startAssert, addOne_checked_of_max hn]
  · rcases startAssert_cases true s sb with h | h
    · rw [h]
    · rw [h, endAssert, addOne_checked_of_max hn]

/-- **F7 on the model**: when `n + 1` is not overflow-checked, `s.replace_range(..=usize::MAX, t)`
does not panic: it inserts `t` in front (std panics) … -/
theorem replaceRangeWith_wraps (s t : Bytes) :
    replaceRangeWith false false s .unbounded (.incl (USIZE - 1)) t = .ok (t ++ s) := by
  have h0 := isCharBoundary_zero s
  simp [replaceRangeWith, startAssert, endAssert, spliceBytes, rangeStart, rangeEnd, addOne_wraps, h0]

/-- … and panics as soon as `replace_range`'s own `n + 1` is checked (overflow checks of the
profile, or `checked_add` in the source). -/
theorem replaceRangeWith_checked (o₂ : Bool) (s t : Bytes) :
    replaceRangeWith true o₂ s .unbounded (.incl (USIZE - 1)) t = .panic :=
  replaceRangeWith_max o₂ s _ _ t (by decide) (.inr rfl)

/-- **F7 on the model**: `s.drain(..=usize::MAX)` drains nothing when `n + 1` is unchecked … -/
theorem drainWith_wraps (s : Bytes) (take back : Nat) (forget : Bool) (hv : Valid s) :
    drainWith false s .unbounded (.incl (USIZE - 1)) take back forget = .ok ⟨s, [], []⟩ := by
  obtain ⟨l, rfl⟩ := hv
  have := drainCore_split [] [] l take back forget
  simp only [List.nil_append, encode_nil, List.length_nil, Nat.add_zero] at this
  simp only [drainWith, rangeStart, rangeEnd, addOne_wraps]
  simpa using this

/-- … and panics when it is checked. -/
theorem drainWith_checked (s : Bytes) (take back : Nat) (forget : Bool) :
    drainWith true s .unbounded (.incl (USIZE - 1)) take back forget = .panic :=
  drainWith_max s _ _ take back forget (by decide) (.inr rfl)

/-- which of the two the build has: checked iff the profile checks overflow or the source uses
`checked_add` (flag regenerated from the source) -/
theorem drain_profile (ovf : Bool) (s : Bytes) (sb eb : Bd) (take back : Nat) (forget : Bool) :
    drain ovf s sb eb take back forget
      = drainWith (ovf || Gen.STR_DRAIN_END_CHECKED == 1) s sb eb take back forget := rfl

theorem replaceRange_profile (ovf : Bool) (s : Bytes) (sb eb : Bd) (t : Bytes) :
    replaceRange ovf s sb eb t
      = replaceRangeWith (ovf || Gen.STR_REPLACE_RANGE_END_CHECKED == 1) (ovf || Gen.VEC_DRAIN_END_CHECKED == 1)
          s sb eb t := rfl

end Bump.Str
