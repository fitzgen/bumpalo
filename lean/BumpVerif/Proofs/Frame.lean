import BumpVerif.Proofs.Alloc
/-! Where blocks live: regions inside the used part `[ptr, footer)` of a chunk, and how the
allocation shapes relate old and new regions (the frame lemmas behind C01/C02/C12). -/
namespace Bump
open Gen

def InChunk (a : Arena) (b bn : Nat) : Prop := ∃ c ∈ a.chunks, c.ptr ≤ b ∧ b + bn ≤ c.footer

theorem disj_of_chunks {M c d x xn y yn} (hc : ChunkWF M c) (hd : ChunkWF M d) (hcd : Disj c.data c.size d.data d.size)
    (hx : c.data ≤ x ∧ x + xn ≤ c.footer) (hy : d.data ≤ y ∧ y + yn ≤ d.footer) : Disj x xn y yn := by
  have c3 := footer_add hc
  have d3 := footer_add hd
  unfold Disj at *
  omega

theorem pairwise_of_ne {α} {R : α → α → Prop} (hs : ∀ a b, R a b → R b a) {l : List α} (hp : l.Pairwise R)
    {x y : α} (hx : x ∈ l) (hy : y ∈ l) (hne : x ≠ y) : R x y := by
  induction hp with
  | nil => cases hx
  | cons hh _ ih =>
    rcases List.mem_cons.mp hx with rfl | hx' <;> rcases List.mem_cons.mp hy with rfl | hy'
    · exact absurd rfl hne
    · exact hh _ hy'
    · exact hs _ _ (hh _ hx')
    · exact ih hx' hy'

theorem chunk_unique {E a c d} (h : ArenaWF E a) (hc : c ∈ a.chunks) (hd : d ∈ a.chunks)
    (hov : ¬ Disj c.data c.size d.data d.size) : c = d :=
  Decidable.byContradiction fun hne => hov (pairwise_of_ne (fun _ _ => Or.symm) h.disj hc hd hne)

theorem chunk_of_point {E a c d x} (h : ArenaWF E a) (hc : c ∈ a.chunks) (hd : d ∈ a.chunks)
    (hcx : c.data ≤ x ∧ x ≤ c.footer) (hdx : d.data ≤ x ∧ x ≤ d.footer) : c = d := by
  refine chunk_unique h hc hd fun hdj => ?_
  have fc := footer_add (h.chunks c hc)
  have fd := footer_add (h.chunks d hd)
  have := FS
  unfold Disj at hdj
  omega

theorem InChunk.head_or_tail {a : Arena} {c cs b bn} (hc : a.chunks = c :: cs) (h : InChunk a b bn) :
    (c.ptr ≤ b ∧ b + bn ≤ c.footer) ∨ ∃ x ∈ cs, x.ptr ≤ b ∧ b + bn ≤ x.footer := by
  obtain ⟨x, hx, h1, h2⟩ := h
  rw [hc] at hx
  rcases List.mem_cons.mp hx with rfl | hx
  · exact Or.inl ⟨h1, h2⟩
  · exact Or.inr ⟨x, hx, h1, h2⟩

/-- Frame of a finger move in the newest chunk `c`: the finger goes to `q` and `[q, q+n)`, which
ends at or below `lim`, is handed out.  A region of a used part stays in a used part and is
disjoint from `[q, q+n)` provided it starts at or above `lim` if it lies at or above the old
finger.  `lim = c.ptr` is an allocation; `lim` = end of the old block is `shrink`/`grow` in place. -/
theorem setPtr_frame {E a a' c cs q n lim} (h : ArenaWF E a) (hc : a.chunks = c :: cs)
    (hc' : a'.chunks = { c with ptr := q } :: cs) (hq : c.data ≤ q) (hn : q + n ≤ lim) (hlim : lim ≤ c.footer) :
    (∀ b bn, InChunk a b bn → (c.ptr ≤ b → lim ≤ b) → InChunk a' b bn ∧ Disj q n b bn) ∧ InChunk a' q n := by
  have hw := h.head hc
  refine ⟨?_, { c with ptr := q }, by rw [hc']; exact List.mem_cons_self, Nat.le_refl q, Nat.le_trans hn hlim⟩
  intro b bn ⟨x, hx, hb1, hb2⟩ hb
  rw [hc] at hx
  rcases List.mem_cons.mp hx with rfl | hx
  · have := hb hb1
    exact ⟨⟨{ x with ptr := q }, by rw [hc']; exact List.mem_cons_self, by show q ≤ b; omega, hb2⟩, Or.inl (by omega)⟩
  · have hwx := h.chunks x (by rw [hc]; exact List.mem_cons_of_mem _ hx)
    exact ⟨⟨x, by rw [hc']; exact List.mem_cons_of_mem _ hx, hb1, hb2⟩,
      disj_of_chunks hw hwx ((List.pairwise_cons.mp (hc ▸ h.disj)).1 x hx) ⟨hq, by omega⟩
        ⟨Nat.le_trans hwx.ptr_ge hb1, hb2⟩⟩

theorem AllocShape.frame {E a a' q sz} (hwf : ArenaWF E a) (hwf' : ArenaWF E a') (sh : AllocShape E a a' q sz) :
    (∀ b bn, InChunk a b bn → InChunk a' b bn ∧ Disj q sz b bn) ∧ (0 < sz → InChunk a' q sz) := by
  rcases sh with ⟨hnil, _, _, hsz⟩ | ⟨c, cs, hc, hc', hge, hle⟩ | ⟨c, hc', hge, hle, _, hdis, _⟩
  · refine ⟨?_, by omega⟩
    intro b bn ⟨c, hc, _⟩
    rw [hnil] at hc; cases hc
  · obtain ⟨f1, f2⟩ := setPtr_frame hwf hc hc' hge hle (hwf.head hc).ptr_le
    exact ⟨fun b bn hb => f1 b bn hb id, fun _ => f2⟩
  · have hw' := hwf'.head hc'
    refine ⟨?_, fun _ => ⟨{ c with ptr := q }, by rw [hc']; exact List.mem_cons_self, Nat.le_refl q, hle⟩⟩
    intro b bn ⟨x, hx, hb1, hb2⟩
    have hwx' := hwf'.chunks x (by rw [hc']; exact List.mem_cons_of_mem _ hx)
    exact ⟨⟨x, by rw [hc']; exact List.mem_cons_of_mem _ hx, hb1, hb2⟩,
      disj_of_chunks hw' hwx' (hdis x hx) ⟨hge, hle⟩ ⟨Nat.le_trans hwx'.ptr_ge hb1, hb2⟩⟩

theorem AllocShape.hi {E a a' p sz} (hE : EnvOK E) (hwf : ArenaWF E a) (hwf' : ArenaWF E a') (sh : AllocShape E a a' p sz) :
    p + sz < 2 ^ 63 := by
  rcases sh with ⟨_, _, hp, hsz⟩ | ⟨c, cs, hc, _, _, hle⟩ | ⟨c, hc', _, hle, _⟩
  · have := hE.hi; have := FS; omega
  · exact Nat.lt_of_le_of_lt hle (hwf.head hc).ptr_lt
  · exact Nat.lt_of_le_of_lt hle (hwf'.head hc').footer_lt

end Bump
