import BumpVerif.Model.Basic
/-! Arithmetic lemmas for the machine-arithmetic primitives. -/
namespace Bump

theorem roundDownTo_le (n d : Nat) : roundDownTo n d ≤ n := Nat.div_mul_le_self n d
theorem roundDownTo_dvd (n d : Nat) : d ∣ roundDownTo n d := Nat.dvd_mul_left d (n / d)
theorem roundDownTo_gt (n d : Nat) (hd : 0 < d) : n < roundDownTo n d + d := by
  unfold roundDownTo
  have := Nat.div_add_mod n d
  have := Nat.mod_lt n hd
  rw [Nat.mul_comm]; omega
theorem roundDownTo_of_dvd {n d : Nat} (h : d ∣ n) : roundDownTo n d = n := Nat.div_mul_cancel h
theorem sub_mod_eq_roundDownTo (n d : Nat) : n - n % d = roundDownTo n d := by
  unfold roundDownTo
  have := Nat.div_add_mod n d
  rw [Nat.mul_comm]; omega

theorem le_roundDownTo {n d m : Nat} (hd : 0 < d) (hm : d ∣ m) (hle : m ≤ n) : m ≤ roundDownTo n d := by
  rw [← Nat.div_mul_cancel hm]
  exact Nat.mul_le_mul_right d (Nat.div_le_div_right hle)

theorem roundUpTo_inv {n d r : Nat} (h : roundUpTo n d = some r) :
    n + (d - 1) < USIZE ∧ (n + (d - 1)) / d * d = r := by
  unfold roundUpTo at h
  split at h
  · exact ⟨‹_›, Option.some.inj h⟩
  · cases h

theorem roundUpTo_some {n d r : Nat} (hd : 0 < d) (h : roundUpTo n d = some r) :
    n ≤ r ∧ r < n + d ∧ d ∣ r ∧ n + (d - 1) < USIZE := by
  obtain ⟨hlt, rfl⟩ := roundUpTo_inv h
  have h1 := Nat.div_add_mod (n + (d - 1)) d
  have h2 := Nat.mod_lt (n + (d - 1)) hd
  rw [Nat.mul_comm] at h1
  exact ⟨by omega, by omega, Nat.dvd_mul_left d _, hlt⟩

theorem roundUpTo_isSome {n d : Nat} (h : n + (d - 1) < USIZE) : ∃ r, roundUpTo n d = some r := by
  unfold roundUpTo; rw [if_pos h]; exact ⟨_, rfl⟩

theorem roundUpTo_le {n d m r : Nat} (hd : 0 < d) (h : roundUpTo n d = some r) (hm : d ∣ m) (hle : n ≤ m) :
    r ≤ m := by
  obtain ⟨_, rfl⟩ := roundUpTo_inv h
  obtain ⟨k, rfl⟩ := hm
  have : (n + (d - 1)) / d ≤ k := by
    apply Nat.le_of_lt_succ
    rw [Nat.div_lt_iff_lt_mul hd, Nat.succ_mul, Nat.mul_comm k d]
    omega
  rw [Nat.mul_comm d k]
  exact Nat.mul_le_mul_right d this

theorem roundUpTo_mono_dvd {n d1 d2 r1 r2 : Nat} (h1 : 0 < d1) (h2 : 0 < d2) (hd : d1 ∣ d2)
    (e1 : roundUpTo n d1 = some r1) (e2 : roundUpTo n d2 = some r2) : r1 ≤ r2 := by
  obtain ⟨a, _, c, _⟩ := roundUpTo_some h2 e2
  exact roundUpTo_le h1 e1 (Nat.dvd_trans hd c) a

theorem roundUpTo_eq {n d r : Nat} (hd : 0 < d) (hdv : d ∣ r) (h1 : n ≤ r) (h2 : r < n + d) (hlt : n + (d - 1) < USIZE) :
    roundUpTo n d = some r := by
  obtain ⟨q, hq⟩ := roundUpTo_isSome hlt
  obtain ⟨q1, q2, q3, _⟩ := roundUpTo_some hd hq
  have h3 := roundUpTo_le hd hq hdv h1
  -- two multiples of `d` less than `d` apart
  have h4 : d ∣ r - q := Nat.dvd_sub hdv q3
  have h5 : r - q = 0 := Nat.eq_zero_of_dvd_of_lt h4 (by omega)
  rw [hq]; congr 1; omega

theorem roundUpTo_of_dvd {n d : Nat} (hd : 0 < d) (hdv : d ∣ n) (hlt : n + (d - 1) < USIZE) :
    roundUpTo n d = some n := by
  obtain ⟨r, hr⟩ := roundUpTo_isSome hlt
  obtain ⟨h1, _, _, _⟩ := roundUpTo_some hd hr
  have := roundUpTo_le hd hr hdv (Nat.le_refl n)
  rw [hr]; congr 1; omega

theorem lt_usize {x p : Nat} (h : x ≤ p) (hp : p < 2 ^ 63) : x < USIZE :=
  Nat.lt_of_le_of_lt h (Nat.lt_trans hp (by decide))

theorem wsub_eq {a b : Nat} (hb : b ≤ a) (ha : a < USIZE) : wsub a b = a - b := by
  rw [wsub, Nat.sub_add_comm hb, Nat.add_mod_right, Nat.mod_eq_of_lt (Nat.lt_of_le_of_lt (Nat.sub_le ..) ha)]

/-- a wrap is visible: the result lands far above any real address -/
theorem wsub_wrap {a b : Nat} (hb : a < b) (hbl : b < USIZE) : wsub a b = a + USIZE - b := by
  unfold wsub
  exact Nat.mod_eq_of_lt (by omega)

theorem checkedMul_two {n : Nat} (h : n * 2 < USIZE) : checkedMul n 2 = some (n * 2) := if_pos h

def IsPow2 (n : Nat) : Prop := ∃ k, n = 2 ^ k

theorem isPow2_iff {n : Nat} : isPow2 n = true ↔ IsPow2 n := by
  unfold isPow2 IsPow2
  constructor
  · intro h; exact ⟨_, by simpa using h⟩
  · rintro ⟨k, rfl⟩
    simp [Nat.log2_two_pow]

theorem IsPow2.pos {a : Nat} (ha : IsPow2 a) : 0 < a := by
  obtain ⟨i, rfl⟩ := ha; exact Nat.pow_pos (by omega)

theorem IsPow2.dvd_of_le {a b : Nat} (ha : IsPow2 a) (hb : IsPow2 b) (h : a ≤ b) : a ∣ b := by
  obtain ⟨i, rfl⟩ := ha; obtain ⟨j, rfl⟩ := hb
  have : i ≤ j := by
    apply Nat.le_of_not_lt; intro hlt
    have := Nat.pow_lt_pow_right (a := 2) (by omega) hlt
    omega
  exact Nat.pow_dvd_pow 2 this

theorem pow2_ge_dvd {k a : Nat} (h : 2 ^ k ≤ a) (ha : IsPow2 a) : 2 ^ k ∣ a :=
  IsPow2.dvd_of_le (⟨k, rfl⟩ : IsPow2 (2 ^ k)) ha h

theorem IsPow2.max {a b : Nat} (ha : IsPow2 a) (hb : IsPow2 b) : IsPow2 (max a b) := by
  rcases Nat.le_total a b with h | h
  · rw [Nat.max_eq_right h]; exact hb
  · rw [Nat.max_eq_left h]; exact ha

theorem isPow2_16 : IsPow2 16 := ⟨4, rfl⟩
theorem isPow2_4096 : IsPow2 4096 := ⟨12, rfl⟩

theorem IsPow2.le16 {m : Nat} (h : IsPow2 m) (hle : m ≤ 16) : m = 1 ∨ m = 2 ∨ m = 4 ∨ m = 8 ∨ m = 16 := by
  obtain ⟨k, rfl⟩ := h
  have hk : k ≤ 4 := by
    apply Nat.le_of_not_lt; intro hlt
    have := Nat.pow_le_pow_right (n := 2) (by omega) (show 5 ≤ k by omega)
    omega
  have : k = 0 ∨ k = 1 ∨ k = 2 ∨ k = 3 ∨ k = 4 := by omega
  rcases this with rfl | rfl | rfl | rfl | rfl <;> simp

theorem le_nextPow2 (n : Nat) : n ≤ nextPow2 n := by
  unfold nextPow2
  split
  · omega
  · have := @Nat.lt_log2_self (n - 1)
    omega

theorem nextPow2_isPow2 (n : Nat) : IsPow2 (nextPow2 n) := by
  unfold nextPow2; split
  · exact ⟨0, rfl⟩
  · exact ⟨_, rfl⟩

theorem nextPow2_lt_two_mul {n : Nat} (h : 1 ≤ n) : nextPow2 n < 2 * n + 1 := by
  unfold nextPow2
  split
  · omega
  · rename_i hn
    have hpos : n - 1 ≠ 0 := by omega
    have := Nat.log2_self_le hpos
    rw [Nat.pow_succ]; omega

theorem validLayout_bound {size align : Nat} (h : validLayout size align = true) : size + align ≤ 2 ^ 63 := by
  simp only [validLayout, Bool.and_eq_true, decide_eq_true_eq] at h; exact h.2

theorem arrayLayout_some_eq {esz eal n t : Nat} (h : arrayLayout esz eal n = some t) : t = esz * n := by
  unfold arrayLayout at h
  split at h
  · cases h
  · exact (Option.some.inj h).symm

/-- `Layout::array` as one test on the exact product: the division in the source is that test -/
theorem arrayLayout_eq (esz eal n : Nat) (heal : eal ≤ 2 ^ 63) :
    arrayLayout esz eal n = if esz * n + eal > 2 ^ 63 then none else some (esz * n) := by
  unfold arrayLayout
  rcases Nat.eq_zero_or_pos esz with rfl | hpos
  · rw [if_neg (fun h => h.1 rfl), Nat.zero_mul, if_neg (by omega)]
  · have key : n > (2 ^ 63 - eal) / esz ↔ esz * n + eal > 2 ^ 63 := by
      rw [gt_iff_lt, Nat.div_lt_iff_lt_mul hpos, Nat.mul_comm n esz]; omega
    simp only [ne_eq, Nat.ne_of_gt hpos, not_false_eq_true, true_and, key]

theorem arrayLayout_some {esz eal n t : Nat} (heal : eal ≤ 2 ^ 63) (h : arrayLayout esz eal n = some t) :
    t = esz * n ∧ t + eal ≤ 2 ^ 63 := by
  rw [arrayLayout_eq esz eal n heal] at h
  split at h
  · cases h
  · cases h; exact ⟨rfl, by omega⟩

theorem mod_eq_zero_of_dvd' {a b : Nat} (h : a ∣ b) : b % a = 0 := Nat.mod_eq_zero_of_dvd h

end Bump
