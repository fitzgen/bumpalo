import BumpVerif.Model.Arena
import BumpVerif.Proofs.Arith
/-! The fast path: bounds, alignment, no wrap-around (lib.rs:1888-1981). -/
namespace Bump

/-- the `Less` and `Equal` arms of the `cmp`: the size is rounded to `MIN_ALIGN` -/
theorem allocFast_small {M al : Nat} (c : Chunk) (sz : Nat) (hal : al ≤ M) :
    allocFast M c sz al = match roundUpTo sz M with
      | none => none
      | some asz => if asz > c.ptr - c.data then none else some (wsub c.ptr asz) := by
  unfold allocFast
  rcases Nat.lt_or_eq_of_le hal with h | rfl
  · rw [if_pos h]; rfl
  · rw [if_neg (Nat.lt_irrefl _), if_pos rfl]; rfl

/-- the `Greater` arm: the finger is rounded down to the requested alignment first -/
theorem allocFast_big {M al : Nat} (c : Chunk) (sz : Nat) (hal : M < al) :
    allocFast M c sz al = match roundUpTo sz al with
      | none => none
      | some asz =>
        if wsub c.ptr (c.ptr % al) < c.data ∨ asz > wsub (wsub c.ptr (c.ptr % al)) c.data then none
        else some (wsub (wsub c.ptr (c.ptr % al)) asz) := by
  unfold allocFast
  rw [if_neg (by omega), if_neg (by omega)]; rfl

/-- the `Less` and `Equal` arms for a finger below `2^63`: no `wrapping_sub` wraps -/
theorem allocFast_small_eq {M al : Nat} (c : Chunk) (sz : Nat) (hal : al ≤ M) (hdp : c.data ≤ c.ptr)
    (hptr : c.ptr < 2 ^ 63) :
    allocFast M c sz al = match roundUpTo sz M with
      | none => none
      | some asz => if c.data + asz ≤ c.ptr then some (c.ptr - asz) else none := by
  rw [allocFast_small c sz hal]
  cases roundUpTo sz M with
  | none => rfl
  | some asz =>
    simp only
    by_cases hfit : c.data + asz ≤ c.ptr
    · rw [if_pos hfit, if_neg (by omega), wsub_eq (by omega) (lt_usize (Nat.le_refl _) hptr)]
    · rw [if_neg hfit, if_pos (by omega)]

/-- the `Greater` arm for a finger below `2^63` -/
theorem allocFast_big_eq {M al : Nat} (c : Chunk) (sz : Nat) (hal : M < al) (hptr : c.ptr < 2 ^ 63) :
    allocFast M c sz al = match roundUpTo sz al with
      | none => none
      | some asz =>
        if c.data + asz ≤ roundDownTo c.ptr al then some (roundDownTo c.ptr al - asz) else none := by
  rw [allocFast_big c sz hal]
  cases roundUpTo sz al with
  | none => rfl
  | some asz =>
    simp only
    rw [wsub_eq (Nat.mod_le _ _) (lt_usize (Nat.le_refl _) hptr), sub_mod_eq_roundDownTo]
    have hle := roundDownTo_le c.ptr al
    generalize roundDownTo c.ptr al = ap at hle ⊢
    by_cases hlo : ap < c.data
    · rw [if_pos (Or.inl hlo), if_neg (by omega)]
    · rw [wsub_eq (Nat.le_of_not_lt hlo) (lt_usize hle hptr)]
      by_cases hfit : c.data + asz ≤ ap
      · rw [if_pos hfit, if_neg (by omega), wsub_eq (by omega) (lt_usize hle hptr)]
      · rw [if_neg hfit, if_pos (Or.inr (by omega))]

/-- All three arms as one formula, for a finger that is `MIN_ALIGN`-aligned. -/
theorem allocFast_eq {M al : Nat} (c : Chunk) (sz : Nat)
    (hdp : c.data ≤ c.ptr) (hptr : c.ptr < 2 ^ 63) (hMp : M ∣ c.ptr) :
    allocFast M c sz al = match roundUpTo sz (max al M) with
      | none => none
      | some asz =>
        if c.data + asz ≤ roundDownTo c.ptr (max al M) then some (roundDownTo c.ptr (max al M) - asz) else none := by
  rcases Nat.lt_or_ge M al with hlt | hle
  · rw [Nat.max_eq_left (Nat.le_of_lt hlt)]; exact allocFast_big_eq c sz hlt hptr
  · rw [Nat.max_eq_right hle, roundDownTo_of_dvd hMp]; exact allocFast_small_eq c sz hle hdp hptr

theorem allocFast_ok (M : Nat) (c : Chunk) (sz al p : Nat)
    (hM : IsPow2 M) (hA : IsPow2 al)
    (hdp : c.data ≤ c.ptr) (hptr : c.ptr < 2 ^ 63) (hMp : M ∣ c.ptr)
    (h : allocFast M c sz al = some p) :
    c.data ≤ p ∧ p + sz ≤ c.ptr ∧ al ∣ p ∧ M ∣ p := by
  rw [allocFast_eq c sz hdp hptr hMp] at h
  split at h
  · cases h
  · rename_i asz hr
    obtain ⟨h1, _, h3, _⟩ := roundUpTo_some (hA.max hM).pos hr
    have hle := roundDownTo_le c.ptr (max al M)
    have hd : max al M ∣ roundDownTo c.ptr (max al M) - asz := Nat.dvd_sub (roundDownTo_dvd _ _) h3
    generalize roundDownTo c.ptr (max al M) = ap at h hle hd
    split at h
    · cases h
      exact ⟨by omega, by omega, Nat.dvd_trans (hA.dvd_of_le (hA.max hM) (Nat.le_max_left ..)) hd,
        Nat.dvd_trans (hM.dvd_of_le (hA.max hM) (Nat.le_max_right ..)) hd⟩
    · cases h

theorem allocFast_le (M : Nat) (c : Chunk) (sz al p : Nat)
    (hM : IsPow2 M) (hA : IsPow2 al)
    (hdp : c.data ≤ c.ptr) (hptr : c.ptr < 2 ^ 63) (hMp : M ∣ c.ptr)
    (h : allocFast M c sz al = some p) : p ≤ c.ptr := by
  have := allocFast_ok M c sz al p hM hA hdp hptr hMp h
  omega

theorem allocFast_fits (M : Nat) (c : Chunk) (sz al : Nat) (hal : al ≤ M)
    (hdp : c.data ≤ c.ptr) (hptr : c.ptr < 2 ^ 63) (asz : Nat) (hr : roundUpTo sz M = some asz)
    (hfit : asz ≤ c.ptr - c.data) :
    allocFast M c sz al = some (c.ptr - asz) := by
  rw [allocFast_small_eq c sz hal hdp hptr, hr]
  exact if_pos (by omega)

theorem allocFast_exact {M sz al : Nat} (c : Chunk) (hM : 0 < M) (hMle : M ≤ 16) (hsz : M ∣ sz) (hal : al ≤ M)
    (hdp : c.data ≤ c.ptr) (hptr : c.ptr < 2 ^ 63) (hfit : sz ≤ c.ptr - c.data) :
    allocFast M c sz al = some (c.ptr - sz) :=
  allocFast_fits M c sz al hal hdp hptr sz
    (roundUpTo_of_dvd hM hsz (by have : USIZE = 2 ^ 64 := rfl; omega)) hfit

end Bump
