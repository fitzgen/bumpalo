import BumpVerif.Proofs.VecOwn
/-!
# `drain_filter` / `retain` (vec.rs:1302-1345, 2690-2794)

`keptN cb xs n` / `outN cb xs n`: the elements among the first `n` that the callback answered
`false` / `true` for (the `j`-th call is shown `xs[j]`).  The loop invariant says that the
buffer is `kept ++ holes ++ unprocessed ++ rest` with `|holes| = del`.
-/
namespace Bump.V
open Bump

def keptN (cb : Nat → Elem → Option Bool) (xs : List Elem) : Nat → List Elem
  | 0 => []
  | n + 1 =>
    match xs[n]? with
    | some e => if cb n e = some false then keptN cb xs n ++ [e] else keptN cb xs n
    | none => keptN cb xs n

def outN (cb : Nat → Elem → Option Bool) (xs : List Elem) : Nat → List Elem
  | 0 => []
  | n + 1 =>
    match xs[n]? with
    | some e => if cb n e = some true then outN cb xs n ++ [e] else outN cb xs n
    | none => outN cb xs n

theorem keptN_pure (f : Elem → Bool) (xs : List Elem) (n : Nat) (hn : n ≤ xs.length) :
    keptN (fun _ e => some (f e)) xs n = (xs.take n).filter (fun e => !f e) ∧
    outN (fun _ e => some (f e)) xs n = (xs.take n).filter f := by
  induction n with
  | zero => simp [keptN, outN]
  | succ n ih =>
    have hlt : n < xs.length := by omega
    obtain ⟨ih1, ih2⟩ := ih (by omega)
    simp only [keptN, outN, List.getElem?_eq_getElem hlt, List.take_succ_eq_append_getElem hlt, List.filter_append, ih1, ih2]
    cases hf : f xs[n] <;> simp [hf]

theorem keptN_succ_false {cb : Nat → Elem → Option Bool} {xs : List Elem} {n : Nat} (hlt : n < xs.length) (h : cb n xs[n] = some false) :
    keptN cb xs (n + 1) = keptN cb xs n ++ [xs[n]] ∧ outN cb xs (n + 1) = outN cb xs n := by
  simp [keptN, outN, List.getElem?_eq_getElem hlt, h]

theorem keptN_succ_true {cb : Nat → Elem → Option Bool} {xs : List Elem} {n : Nat} (hlt : n < xs.length) (h : cb n xs[n] = some true) :
    keptN cb xs (n + 1) = keptN cb xs n ∧ outN cb xs (n + 1) = outN cb xs n ++ [xs[n]] := by
  simp [keptN, outN, List.getElem?_eq_getElem hlt, h]

theorem kept_out_perm (cb : Nat → Elem → Option Bool) (xs : List Elem) (n : Nat) (hn : n ≤ xs.length)
    (hall : ∀ j (h : j < n), (cb j (xs[j]'(by omega))).isSome) :
    (xs.take n).Perm (keptN cb xs n ++ outN cb xs n) := by
  induction n with
  | zero => simp [keptN, outN]
  | succ n ih =>
    have hlt : n < xs.length := by omega
    have ih' := (ih (by omega) (fun j h => hall j (by omega))).append_right [xs[n]]
    rw [List.take_succ_eq_append_getElem hlt]
    have hs := hall n (by omega)
    cases hcb : cb n xs[n] with
    | none => simp [hcb] at hs
    | some b =>
      cases b with
      | false =>
        rw [(keptN_succ_false hlt hcb).1, (keptN_succ_false hlt hcb).2]
        rw [List.append_assoc] at ih' ⊢
        exact ih'.trans (List.perm_append_comm.append_left _)
      | true =>
        rw [(keptN_succ_true hlt hcb).1, (keptN_succ_true hlt hcb).2, ← List.append_assoc]
        exact ih'

/-- invariant of the `DrainFilter` between two predicate calls -/
structure DFInv (cb : Nat → Elem → Option Bool) (xs : List Elem) (rest : List (Option Elem)) (v : VS) (s : DF) : Prop where
  oldLen : s.oldLen = xs.length
  idxLe : s.idx ≤ xs.length
  calls : s.calls = s.idx
  flag : s.panicFlag = false
  answered : ∀ j (h : j < s.idx), (cb j (xs[j]'(by omega))).isSome
  del : s.del = (outN cb xs s.idx).length
  slots : ∃ holes, holes.length = s.del ∧
    v.slots = (keptN cb xs s.idx).map some ++ (holes ++ ((xs.drop s.idx).map some ++ rest))

theorem DFInv.keptLen {cb xs rest v s} (h : DFInv cb xs rest v s) : (keptN cb xs s.idx).length + s.del = s.idx := by
  have := (kept_out_perm cb xs s.idx h.idxLe h.answered).length_eq
  have := h.idxLe
  simp only [List.length_take, List.length_append, ← h.del] at *
  omega

theorem DFInv.read {cb xs rest v s} (h : DFInv cb xs rest v s) (hlt : s.idx < xs.length) :
    v.read s.idx = some xs[s.idx] := by
  obtain ⟨holes, hh, hs⟩ := h.slots
  have hk := h.keptLen
  have hd : xs.drop s.idx = xs[s.idx] :: xs.drop (s.idx + 1) := (List.getElem_cons_drop hlt).symm
  have hpre : ((keptN cb xs s.idx).map some ++ holes).length = s.idx := by simp; omega
  rw [VS.read, hs, ← List.append_assoc, List.getElem?_append_right (by omega), hpre, hd]
  simp only [Nat.sub_self, List.map_cons, List.cons_append, List.getElem?_cons_zero, Option.join_some]

theorem DFInv.answered_succ {cb xs rest v s} (h : DFInv cb xs rest v s) (hlt : s.idx < xs.length) {b : Bool}
    (hcb : cb s.idx xs[s.idx] = some b) : ∀ j (hj : j < s.idx + 1), (cb j (xs[j]'(by omega))).isSome := by
  intro j hj
  by_cases hjj : j = s.idx
  · subst hjj; simp [hcb]
  · exact h.answered j (by omega)

/-- the predicate said `true`: the element under the index becomes one more hole -/
theorem DFInv.drained {cb xs rest v s} (h : DFInv cb xs rest v s) (hlt : s.idx < xs.length)
    (hcb : cb s.idx xs[s.idx] = some true) :
    DFInv cb xs rest v { s with idx := s.idx + 1, del := s.del + 1, calls := s.calls + 1 } := by
  obtain ⟨hk1, ho1⟩ := keptN_succ_true hlt hcb
  obtain ⟨holes, hh, hs⟩ := h.slots
  refine ⟨h.oldLen, hlt, by simp [h.calls], h.flag, h.answered_succ hlt hcb, by simp [ho1, h.del],
    holes ++ [some xs[s.idx]], by simp [hh], ?_⟩
  rw [hs, hk1, map_some_drop xs _ hlt]
  simp

/-- the predicate said `false`: the element joins the kept prefix, in place or written over the first hole -/
theorem DFInv.kept {cb xs rest v s} (h : DFInv cb xs rest v s) (hlt : s.idx < xs.length)
    (hcb : cb s.idx xs[s.idx] = some false) {sl : List (Option Elem)} {holes : List (Option Elem)} (hl : holes.length = s.del)
    (hs : sl = (keptN cb xs s.idx ++ [xs[s.idx]]).map some ++ (holes ++ ((xs.drop (s.idx + 1)).map some ++ rest))) :
    DFInv cb xs rest ⟨sl, v.len, v.cap⟩ { s with idx := s.idx + 1, calls := s.calls + 1 } := by
  obtain ⟨hk1, ho1⟩ := keptN_succ_false hlt hcb
  exact ⟨h.oldLen, hlt, by simp [h.calls], h.flag, h.answered_succ hlt hcb, by simp [ho1, h.del], holes, hl, by simp only [hk1, hs]⟩

/-- where a run of `next` calls stands that had yielded `out0` before and `ys` since: between two
calls (`true`) or inside a panicking predicate call (`false`) -/
inductive DFEnd (cb : Nat → Elem → Option Bool) (xs : List Elem) (rest : List (Option Elem)) (out0 ys : List Elem) :
    VS → DF → Bool → Prop where
  | ok (v' s') : DFInv cb xs rest v' s' → outN cb xs s'.idx = out0 ++ ys → DFEnd cb xs rest out0 ys v' s' true
  | panicked (v' s0) : DFInv cb xs rest v' s0 → (hlt : s0.idx < xs.length) → cb s0.idx xs[s0.idx] = none →
      outN cb xs s0.idx = out0 ++ ys →
      DFEnd cb xs rest out0 ys v' { s0 with calls := s0.calls + 1, panicFlag := true } false

theorem DFEnd.inv {cb xs rest out0 ys v s} (h : DFEnd cb xs rest out0 ys v s true) :
    DFInv cb xs rest v s ∧ outN cb xs s.idx = out0 ++ ys := by
  match h with
  | .ok _ _ hi ho => exact ⟨hi, ho⟩

theorem DFEnd.cons {cb xs rest out0 e ys v s ok} (h : DFEnd cb xs rest (out0 ++ [e]) ys v s ok) :
    DFEnd cb xs rest out0 (e :: ys) v s ok := by
  match ok, h with
  | true, .ok _ _ hi ho => exact .ok _ _ hi (by rw [ho, List.append_assoc]; rfl)
  | false, .panicked _ s0 hi hlt hcb ho => exact .panicked _ s0 hi hlt hcb (by rw [ho, List.append_assoc]; rfl)

theorem dfNext_done (c : Cfg) (cb : Nat → Elem → Option Bool) (f : Nat) (v : VS) (s : DF) (w : W) (h : s.idx = s.oldLen) :
    dfNext c cb (f + 1) v s w = (v, s, w, some none) := by
  conv => lhs; unfold dfNext
  rw [if_pos h]

theorem dfNext_ub (c : Cfg) (cb : Nat → Elem → Option Bool) (f : Nat) (v : VS) (s : DF) (w : W) (h : ¬ s.idx = s.oldLen)
    (hr : v.read s.idx = none) :
    dfNext c cb (f + 1) v s w = (v, s, w.flag "drain_filter read an uninitialised slot", some none) := by
  conv => lhs; unfold dfNext
  rw [if_neg h]
  show (match v.read s.idx with | none => _ | some e => _) = _
  rw [hr]

theorem dfNext_step (c : Cfg) (cb : Nat → Elem → Option Bool) (f : Nat) (v : VS) (s : DF) (w : W) (e : Elem) (h : ¬ s.idx = s.oldLen)
    (hr : v.read s.idx = some e) :
    dfNext c cb (f + 1) v s w =
      match cb s.calls e with
      | none => (v, { s with calls := s.calls + 1, panicFlag := true }, w, none)
      | some true => (v, { s with idx := s.idx + 1, del := s.del + 1, calls := s.calls + 1 }, w, some (some e))
      | some false =>
        dfNext c cb f (if s.del > 0 then v.write c (s.idx - s.del) e w else (v, w)).1 { s with idx := s.idx + 1, calls := s.calls + 1 }
          (if s.del > 0 then v.write c (s.idx - s.del) e w else (v, w)).2 := by
  conv => lhs; unfold dfNext
  rw [if_neg h]
  show (match v.read s.idx with | none => _ | some e => _) = _
  rw [hr]
  dsimp only
  by_cases hd : s.del > 0
  · rw [if_pos hd, if_pos hd]; rfl
  · rw [if_neg hd, if_neg hd]; rfl

theorem dfNext_bad_le (c : Cfg) (cb : Nat → Elem → Option Bool) :
    ∀ (f : Nat) (v : VS) (s : DF) (w : W), w.bad.length ≤ (dfNext c cb f v s w).2.2.1.bad.length := by
  intro f
  induction f with
  | zero => intro v s w; exact Nat.le_refl _
  | succ f ih =>
    intro v s w
    by_cases hdone : s.idx = s.oldLen
    · rw [dfNext_done c cb f v s w hdone]; exact Nat.le_refl _
    · cases hr : v.read s.idx with
      | none => rw [dfNext_ub c cb f v s w hdone hr]; exact Nat.le_of_lt (w.lt_flag _)
      | some e =>
        rw [dfNext_step c cb f v s w e hdone hr]
        cases cb s.calls e with
        | none => exact Nat.le_refl _
        | some ans =>
          cases ans with
          | true => exact Nat.le_refl _
          | false =>
            refine Nat.le_trans ?_ (ih _ _ _)
            split
            · exact write_bad_le c v _ e w
            · exact Nat.le_refl _

theorem dfNext_inv (c : Cfg) (cb : Nat → Elem → Option Bool) :
    ∀ (f : Nat) (v : VS) (s : DF) (w : W), s.idx ≤ s.oldLen → s.del ≤ s.idx → s.panicFlag = false →
      (dfNext c cb f v s w).2.1.oldLen = s.oldLen ∧ (dfNext c cb f v s w).2.1.idx ≤ s.oldLen ∧
      (dfNext c cb f v s w).2.1.del ≤ (dfNext c cb f v s w).2.1.idx ∧
      ((dfNext c cb f v s w).2.2.2 ≠ none → (dfNext c cb f v s w).2.1.panicFlag = false) ∧
      (∀ e, (dfNext c cb f v s w).2.2.2 = some (some e) → s.idx < (dfNext c cb f v s w).2.1.idx) := by
  intro f
  induction f with
  | zero => intro v s w h1 h2 h3; exact ⟨rfl, h1, h2, fun _ => h3, fun _ h => nomatch h⟩
  | succ f ih =>
    intro v s w h1 h2 h3
    by_cases hdone : s.idx = s.oldLen
    · rw [dfNext_done c cb f v s w hdone]; exact ⟨rfl, h1, h2, fun _ => h3, fun _ h => nomatch h⟩
    · have hlt : s.idx < s.oldLen := Nat.lt_of_le_of_ne h1 hdone
      cases hr : v.read s.idx with
      | none => rw [dfNext_ub c cb f v s w hdone hr]; exact ⟨rfl, h1, h2, fun _ => h3, fun _ h => nomatch h⟩
      | some e =>
        rw [dfNext_step c cb f v s w e hdone hr]
        cases cb s.calls e with
        | none => exact ⟨rfl, h1, h2, fun h => absurd rfl h, fun _ h => nomatch h⟩
        | some ans =>
          cases ans with
          | true => exact ⟨rfl, hlt, Nat.succ_le_succ h2, fun _ => h3, fun _ _ => Nat.lt_succ_self _⟩
          | false =>
            obtain ⟨a1, a2, a3, a4, a5⟩ := ih _ { s with idx := s.idx + 1, calls := s.calls + 1 } _ hlt (Nat.le_succ_of_le h2) h3
            exact ⟨a1, a2, a3, a4, fun e' he' => Nat.lt_of_succ_lt (a5 e' he')⟩

theorem dfDrain_succ (c : Cfg) (cb : Nat → Elem → Option Bool) (f : Nat) (v : VS) (s : DF) (w : W) :
    dfDrain c cb (f + 1) v s w =
      match dfNext c cb (s.oldLen - s.idx + 1) v s w with
      | (v, s, w, none) => (v, s, w, false)
      | (v, s, w, some none) => (v, s, w, true)
      | (v, s, w, some (some e)) =>
        if (dropElem c w e).2 then (v, s, (dropElem c w e).1, false) else dfDrain c cb f v s (dropElem c w e).1 := by
  rw [dfDrain]
  rfl

theorem dfDrain_next_le (c : Cfg) (cb : Nat → Elem → Option Bool) (f : Nat)
    (ih : ∀ (v : VS) (s : DF) (w : W), w.bad.length ≤ (dfDrain c cb f v s w).2.2.1.bad.length) (v : VS) (s : DF) (w : W) :
    (dfNext c cb (s.oldLen - s.idx + 1) v s w).2.2.1.bad.length ≤ (dfDrain c cb (f + 1) v s w).2.2.1.bad.length := by
  rw [dfDrain_succ]
  generalize dfNext c cb (s.oldLen - s.idx + 1) v s w = m
  obtain ⟨v', s', w', _ | _ | e⟩ := m
  · exact Nat.le_refl _
  · exact Nat.le_refl _
  · have hb := dropElem_bad c w' e
    dsimp only
    split
    · exact Nat.le_of_eq (congrArg List.length hb.symm)
    · exact hb ▸ ih v' s' (dropElem c w' e).1

theorem dfDrain_bad_le (c : Cfg) (cb : Nat → Elem → Option Bool) :
    ∀ (f : Nat) (v : VS) (s : DF) (w : W), w.bad.length ≤ (dfDrain c cb f v s w).2.2.1.bad.length := by
  intro f
  induction f with
  | zero => intro v s w; exact Nat.le_refl _
  | succ f ih => exact fun v s w => Nat.le_trans (dfNext_bad_le c cb _ v s w) (dfDrain_next_le c cb f ih v s w)

/-- one `DrainFilter::next` -/
theorem dfNext_spec (c : Cfg) (cb : Nat → Elem → Option Bool) (xs : List Elem) (rest : List (Option Elem)) (l cp : Nat) :
    ∀ (fuel : Nat) (sl : List (Option Elem)) (s : DF) (w : W), DFInv cb xs rest ⟨sl, l, cp⟩ s → s.oldLen - s.idx < fuel →
      ∃ sl' s' r, dfNext c cb fuel ⟨sl, l, cp⟩ s w = (⟨sl', l, cp⟩, s', w, r) ∧ s.idx + (r.getD none).toList.length ≤ s'.idx ∧
        DFEnd cb xs rest (outN cb xs s.idx) (r.getD none).toList ⟨sl', l, cp⟩ s' r.isSome ∧ (r = some none → s'.idx = xs.length) := by
  intro fuel
  induction fuel with
  | zero => intro sl s w _ hf; exact absurd hf (Nat.not_lt_zero _)
  | succ f ih =>
    intro sl s w hinv hf
    by_cases hdone : s.idx = s.oldLen
    · exact ⟨sl, s, some none, by rw [dfNext, if_pos hdone], Nat.le_refl _, .ok _ s hinv (List.append_nil _).symm, fun _ => hdone.trans hinv.oldLen⟩
    · have hlt : s.idx < xs.length := by have := hinv.oldLen; have := hinv.idxLe; omega
      have hread := hinv.read hlt
      have hcbc : cb s.calls xs[s.idx] = cb s.idx xs[s.idx] := by rw [hinv.calls]
      rw [dfNext, if_neg hdone]
      simp only [hread, hcbc]
      cases hcb : cb s.idx xs[s.idx] with
      | none => exact ⟨sl, _, none, rfl, Nat.le_refl _, .panicked _ s hinv hlt hcb (List.append_nil _).symm, (fun h => nomatch h)⟩
      | some b =>
        cases b with
        | true =>
          exact ⟨sl, _, some (some xs[s.idx]), rfl, Nat.le_refl _, .ok _ _ (hinv.drained hlt hcb) (keptN_succ_true hlt hcb).2,
            (fun h => nomatch h)⟩
        | false =>
          -- in both cases the loop goes on from slots `sl1` in which the element has joined the kept prefix
          have next : ∀ sl1, DFInv cb xs rest ⟨sl1, l, cp⟩ { s with idx := s.idx + 1, calls := s.calls + 1 } →
              ∃ sl' s' r, dfNext c cb f ⟨sl1, l, cp⟩ { s with idx := s.idx + 1, calls := s.calls + 1 } w = (⟨sl', l, cp⟩, s', w, r) ∧
                s.idx + (r.getD none).toList.length ≤ s'.idx ∧
                DFEnd cb xs rest (outN cb xs (s.idx + 1)) (r.getD none).toList ⟨sl', l, cp⟩ s' r.isSome ∧
                (r = some none → s'.idx = xs.length) := fun sl1 hinv' =>
            have ⟨sl', s', r, hrun, hidx, hrest⟩ := ih sl1 _ w hinv' (by have := hinv.oldLen; simp only; omega)
            ⟨sl', s', r, hrun, Nat.le_trans (Nat.add_le_add_right (Nat.le_succ s.idx) _) hidx, hrest⟩
          rw [← (keptN_succ_false hlt hcb).2]
          obtain ⟨holes, hh, hs⟩ := hinv.slots
          have hk := hinv.keptLen
          simp only at hs
          subst hs
          by_cases hdel : s.del > 0
          · -- the kept element moves down over the first hole
            cases holes with
            | nil => simp at hh; omega
            | cons h0 H =>
              have hidx : s.idx - s.del = ((keptN cb xs s.idx).map some).length := by simp; omega
              simp only [hdel, ↓reduceIte, hidx, List.cons_append, write_at]
              exact next _ (hinv.kept hlt hcb (holes := H ++ [some xs[s.idx]]) (by simpa using hh) (by rw [map_some_drop xs _ hlt]; simp))
          · have hnil : holes = [] := List.length_eq_zero_iff.mp (by omega)
            subst hnil
            simp only [hdel, ↓reduceIte]
            exact next _ (hinv.kept hlt hcb (holes := []) (by omega) (by rw [map_some_drop xs _ hlt]; simp))

/-- the caller's `next()` calls -/
theorem dfTake_spec (c : Cfg) (cb : Nat → Elem → Option Bool) (xs : List Elem) (rest : List (Option Elem)) (l cp : Nat) :
    ∀ (k : Nat) (sl : List (Option Elem)) (s : DF) (w : W), DFInv cb xs rest ⟨sl, l, cp⟩ s →
      ∃ sl' s' w' ys ok, dfTake c cb k ⟨sl, l, cp⟩ s w = (⟨sl', l, cp⟩, s', w', ys, ok) ∧
        DFEnd cb xs rest (outN cb xs s.idx) ys ⟨sl', l, cp⟩ s' ok ∧ w'.evs = w.evs ++ movedEvs ys ∧ w'.bad = w.bad ∧
        w'.nextId = w.nextId ∧ ys.length ≤ k ∧ (ok = true → ys.length < k → s'.idx = xs.length) := by
  intro k
  induction k with
  | zero =>
    intro sl s w hinv
    exact ⟨sl, s, w, [], true, rfl, .ok _ s hinv (List.append_nil _).symm, (List.append_nil _).symm, rfl, rfl,
      Nat.le_refl _, fun _ h => absurd h (Nat.not_lt_zero _)⟩
  | succ k ih =>
    intro sl s w hinv
    obtain ⟨sl1, s1, r, hrun, _, hend, hfin⟩ := dfNext_spec c cb xs rest l cp _ sl s w hinv (Nat.lt_succ_self _)
    rw [dfTake, hrun]
    match r with
    | none => exact ⟨sl1, s1, w, [], false, rfl, hend, (List.append_nil _).symm, rfl, rfl, Nat.zero_le _, (fun h => nomatch h)⟩
    | some none => exact ⟨sl1, s1, w, [], true, rfl, hend, (List.append_nil _).symm, rfl, rfl, Nat.zero_le _, fun _ _ => hfin rfl⟩
    | some (some e) =>
      obtain ⟨hi, hout⟩ := hend.inv
      obtain ⟨sl2, s2, w2, ys, ok, hrun2, hend2, hev, hb, hn, hlen, hfin2⟩ := ih sl1 s1 (w.moved e) hi
      refine ⟨sl2, s2, w2, e :: ys, ok, by simp only [hrun2], (hout ▸ hend2).cons, ?_, hb, hn,
        Nat.succ_le_succ hlen, fun h1 h2 => hfin2 h1 (Nat.lt_of_succ_lt_succ h2)⟩
      rw [hev, W.moved_evs w e, List.append_assoc, ← movedEvs_append]; rfl

/-- `for_each(drop)` of the destructor; `done` = it ran to the end; `predOk = false` = the predicate panicked -/
theorem dfDrain_spec (c : Cfg) (cb : Nat → Elem → Option Bool) (xs : List Elem) (rest : List (Option Elem)) (l cp : Nat) :
    ∀ (f : Nat) (sl : List (Option Elem)) (s : DF) (w : W), DFInv cb xs rest ⟨sl, l, cp⟩ s → xs.length - s.idx < f →
      ∃ sl' s' w' ys done predOk, dfDrain c cb f ⟨sl, l, cp⟩ s w = (⟨sl', l, cp⟩, s', w', done) ∧
        DFEnd cb xs rest (outN cb xs s.idx) ys ⟨sl', l, cp⟩ s' predOk ∧ w'.evs = w.evs ++ dropEvs c ys ∧ w'.bad = w.bad ∧
        w'.nextId = w.nextId ∧ (done = true → predOk = true ∧ s'.idx = xs.length) ∧
        (c.dropPanicAt = none → predOk = true → done = true) := by
  intro f
  induction f with
  | zero => intro sl s w _ hf; exact absurd hf (Nat.not_lt_zero _)
  | succ f ih =>
    intro sl s w hinv hf
    obtain ⟨sl1, s1, r, hrun, hle, hend, hfin⟩ := dfNext_spec c cb xs rest l cp _ sl s w hinv (Nat.lt_succ_self _)
    have hnil : w.evs = w.evs ++ dropEvs c [] := by simp [dropEvs]
    rw [dfDrain, hrun]
    match r with
    | none => exact ⟨sl1, s1, w, [], false, false, rfl, hend, hnil, rfl, rfl, (fun h => nomatch h), (fun _ h => nomatch h)⟩
    | some none => exact ⟨sl1, s1, w, [], true, true, rfl, hend, hnil, rfl, rfl, fun _ => ⟨rfl, hfin rfl⟩, fun _ _ => rfl⟩
    | some (some e) =>
      obtain ⟨hi, hout⟩ := hend.inv
      have hbad0 := dropElem_bad c w e
      have hnid0 := dropElem_nextId c w e
      cases hp : (dropElem c w e).2 with
      | true =>
        refine ⟨sl1, s1, (dropElem c w e).1, [e], false, true, by simp only [hp, ↓reduceIte], hend, dropElem_evs c w e, hbad0, hnid0,
          (fun h => nomatch h), fun hn => ?_⟩
        rw [dropElem_noPanic c w e hn] at hp; cases hp
      | false =>
        have hlt1 : s.idx < s1.idx := hle
        obtain ⟨sl2, s2, w2, ys, done, predOk, hrun2, hend2, hev, hb, hn, hfin2, hnp⟩ :=
          ih sl1 s1 (dropElem c w e).1 hi (by have := hi.idxLe; omega)
        refine ⟨sl2, s2, w2, e :: ys, done, predOk, by simp only [hp, Bool.false_eq_true, ↓reduceIte, hrun2],
          (hout ▸ hend2).cons, ?_, hb.trans hbad0, hn.trans hnid0, hfin2, hnp⟩
        rw [hev, dropElem_evs, List.append_assoc, ← dropEvs_append]; rfl

theorem DFInv.total {cb xs rest v s} (h : DFInv cb xs rest v s) : v.slots.length = xs.length + rest.length := by
  obtain ⟨holes, hh, hs⟩ := h.slots
  have hk := h.keptLen
  have := h.idxLe
  rw [hs]; simp; omega

/-- `BackshiftOnDrop::drop` on a buffer made of kept elements `K`, holes `H`, unprocessed elements `U`
and the rest `R` -/
theorem dfBackshift_run (c : Cfg) (K H U R : List (Option Elem)) (l cp : Nat) (s : DF) (w : W)
    (hi : s.idx = K.length + H.length) (hd : s.del = H.length) (ho : s.oldLen = s.idx + U.length) :
    ∃ J, J.length = H.length ∧
      dfBackshift c ⟨K ++ (H ++ (U ++ R)), l, cp⟩ s w = (⟨K ++ (U ++ (J ++ R)), K.length + U.length, cp⟩, w) := by
  have hlen : s.oldLen - s.del = K.length + U.length := by
    rw [ho, hi, hd, Nat.add_right_comm, Nat.add_sub_cancel]
  unfold dfBackshift
  by_cases hc : s.idx < s.oldLen ∧ s.del > 0
  · obtain ⟨J, hJ, hcp⟩ := copy_block_down K H U R
    have h1 : s.idx - s.del = K.length := by rw [hi, hd, Nat.add_sub_cancel]
    have h2 : s.oldLen - s.idx = U.length := by rw [ho, Nat.add_sub_cancel_left]
    refine ⟨J, hJ, ?_⟩
    rw [if_pos hc, h1, h2, hi, copy_ok _ _ _ _ _ _ (by simp; omega), hlen]
    simp only [hcp]
  · rw [if_neg hc, hlen]
    rcases (show H.length = 0 ∨ U.length = 0 by omega) with h0 | h0
    · rw [List.length_eq_zero_iff] at h0; subst h0; exact ⟨[], rfl, by simp⟩
    · rw [List.length_eq_zero_iff] at h0; subst h0; exact ⟨H, rfl, by simp⟩

/-- wherever the run stopped, the fields that `BackshiftOnDrop::drop` reads are those of a state between two calls -/
theorem DFEnd.core {cb xs rest out0 ys v s ok} (h : DFEnd cb xs rest out0 ys v s ok) :
    DFInv cb xs rest v { s with calls := s.idx, panicFlag := false } ∧ outN cb xs s.idx = out0 ++ ys ∧
      (ok = false → ∃ hl : s.idx < xs.length, cb s.idx xs[s.idx] = none) := by
  match ok, h with
  | true, .ok _ _ hi ho => exact ⟨⟨hi.oldLen, hi.idxLe, rfl, rfl, hi.answered, hi.del, hi.slots⟩, ho, (fun h => nomatch h)⟩
  | false, .panicked _ _ hi hlt hcb ho => exact ⟨⟨hi.oldLen, hi.idxLe, rfl, rfl, hi.answered, hi.del, hi.slots⟩, ho, fun _ => ⟨hlt, hcb⟩⟩

theorem DFEnd.backshift {c : Cfg} {cb xs rest out0 ys sl l s ok} {v0 : VS} (hend : DFEnd cb xs rest out0 ys ⟨sl, l, v0.cap⟩ s ok)
    (h : RepB c v0 xs) (hsl : v0.slots.length = xs.length + rest.length) (w : W) :
    ∃ v', dfBackshift c ⟨sl, l, v0.cap⟩ s w = (v', w) ∧ s.idx ≤ xs.length ∧ (∀ j (_ : j < s.idx) (hl : j < xs.length), (cb j xs[j]).isSome) ∧
      outN cb xs s.idx = out0 ++ ys ∧ RepB c v' (keptN cb xs s.idx ++ xs.drop s.idx) ∧
      (ok = false → ∃ hl : s.idx < xs.length, cb s.idx xs[s.idx] = none) := by
  obtain ⟨hi, hout, hpan⟩ := hend.core
  obtain ⟨holes, hh, hs⟩ := hi.slots
  have hk := hi.keptLen
  have hle := hi.idxLe
  simp only at hs hh hk hle
  subst hs
  obtain ⟨J, hJ, hrun⟩ := dfBackshift_run c ((keptN cb xs s.idx).map some) holes ((xs.drop s.idx).map some) rest l v0.cap s w
    (by rw [List.length_map, hh, hk]) hh.symm (by rw [List.length_map, List.length_drop, hi.oldLen, Nat.add_sub_cancel' hle])
  refine ⟨_, hrun, hle, fun j hj _ => hi.answered j hj, hout, ?_, hpan⟩
  have := h.reslot (ys := keptN cb xs s.idx ++ xs.drop s.idx) (rest' := J ++ rest) (by rw [hsl]; simp; omega) (by simp; omega)
  simpa using this

theorem dfDrop_unfold (c : Cfg) (cb : Nat → Elem → Option Bool) (v : VS) (s : DF) (w : W) :
    dfDrop c cb v s w =
      if s.panicFlag then ((dfBackshift c v s w).1, (dfBackshift c v s w).2, true)
      else
        let r := dfDrain c cb (s.oldLen - s.idx + 1) v s w
        ((dfBackshift c r.1 r.2.1 r.2.2.1).1, (dfBackshift c r.1 r.2.1 r.2.2.1).2, r.2.2.2) := by
  cases h : s.panicFlag <;> simp only [dfDrop, h] <;> rfl

theorem drainFilterOp_unfold (c : Cfg) (v : VS) (cb : Nat → Elem → Option Bool) (take : Nat) (forget : Bool) (w : W) :
    drainFilterOp c v cb take forget w =
      let t := dfTake c cb take { v with len := 0 } ⟨0, 0, v.len, 0, false⟩ w
      if t.2.2.2.2 = false then
        ((dfDrop c cb t.1 t.2.1 t.2.2.1).1, (dfDrop c cb t.1 t.2.1 t.2.2.1).2.1, none)
      else if forget then (t.1, t.2.2.1, some t.2.2.2.1)
      else ((dfDrop c cb t.1 t.2.1 t.2.2.1).1, (dfDrop c cb t.1 t.2.1 t.2.2.1).2.1,
            if (dfDrop c cb t.1 t.2.1 t.2.2.1).2.2 then some t.2.2.2.1 else none) := by
  unfold drainFilterOp
  dsimp only
  generalize dfTake c cb take { v with len := 0 } ⟨0, 0, v.len, 0, false⟩ w = t
  rcases t with ⟨v1, s, w1, ys, ok⟩
  cases ok <;> simp

/-- a whole `drain_filter(pred)` statement: `n` elements were processed, `ysT` handed to the caller, `ysD` dropped
by the destructor -/
theorem drainFilterOp_spec {c : Cfg} {v : VS} {xs : List Elem} (h : RepB c v xs) (cb : Nat → Elem → Option Bool)
    (take : Nat) (forget : Bool) (w : W) :
    ∃ (v' : VS) (w' : W) (r : Option (List Elem)) (n : Nat) (ysT ysD : List Elem) (leak : Bool),
      drainFilterOp c v cb take forget w = (v', w', r) ∧ n ≤ xs.length ∧
      (∀ j (_ : j < n) (hl : j < xs.length), (cb j xs[j]).isSome) ∧
      outN cb xs n = ysT ++ ysD ∧ ysT.length ≤ take ∧
      RepB c v' (if leak then [] else keptN cb xs n ++ xs.drop n) ∧
      w'.evs = w.evs ++ movedEvs ysT ++ dropEvs c ysD ∧ w'.bad = w.bad ∧ w'.nextId = w.nextId ∧
      (leak = true → forget = true ∧ ysD = []) ∧
      (∀ m, r = some m → m = ysT ∧ (leak = false → n = xs.length)) ∧
      ((∀ k e, cb k e ≠ none) → c.dropPanicAt = none → forget = false →
          r = some ysT ∧ n = xs.length ∧ (ysT.length < take → ysD = [])) := by
  obtain ⟨rest, hs⟩ := h.slots
  have hsl : v.slots.length = xs.length + rest.length := by rw [hs]; simp
  have hinv0 : DFInv cb xs rest { v with len := 0 } ⟨0, 0, v.len, 0, false⟩ :=
    ⟨h.len, Nat.zero_le _, rfl, rfl, fun j hj => absurd hj (Nat.not_lt_zero _), rfl, [], rfl, hs⟩
  obtain ⟨sl1, s1, w1, ysT, ok, hrun, hend, hev1, hb1, hn1, hlenT, hfin⟩ := dfTake_spec c cb xs rest 0 v.cap take _ _ w hinv0
  have hnil : w1.evs = w.evs ++ movedEvs ysT ++ dropEvs c [] := by rw [hev1]; simp [dropEvs]
  rw [show outN cb xs 0 = [] from rfl] at hend
  rw [drainFilterOp_unfold]
  simp only [hrun]
  cases ok with
  | false =>
    -- the predicate panicked inside a caller's `next`: the destructor only backshifts
    have hflag : s1.panicFlag = true := by cases hend; rfl
    obtain ⟨v', hbs, hn, hall, hout, hrep, hpan⟩ := hend.backshift h hsl w1
    obtain ⟨hlt, hcb⟩ := hpan rfl
    rw [if_pos rfl, dfDrop_unfold, if_pos hflag, hbs]
    exact ⟨v', w1, none, s1.idx, ysT, [], false, rfl, hn, hall, by simpa using hout, hlenT, hrep, hnil, hb1, hn1, (fun hh => nomatch hh),
      (fun _ hh => nomatch hh), fun htot => absurd hcb (htot _ _)⟩
  | true =>
    obtain ⟨hi, hout⟩ := hend.inv
    rw [if_neg (by simp)]
    cases forget with
    | true =>
      -- the iterator is forgotten: `len` stays 0, everything not yielded is leaked
      have hrep : RepB c ⟨sl1, 0, v.cap⟩ [] := h.reslot (ys := []) (rest' := sl1) (by simpa [hsl] using hi.total) (Nat.zero_le _)
      exact ⟨_, w1, some ysT, s1.idx, ysT, [], true, rfl, hi.idxLe, fun j hj _ => hi.answered j hj, by simpa using hout, hlenT, hrep,
        hnil, hb1, hn1, fun _ => ⟨rfl, rfl⟩, fun m hm => ⟨(Option.some.inj hm).symm, (fun hh => nomatch hh)⟩, (fun _ _ hh => nomatch hh)⟩
    | false =>
      obtain ⟨sl2, s2, w2, ysD, b, e, hrun2, hend2, hev2, hb2, hn2, hfin2, hnp2⟩ :=
        dfDrain_spec c cb xs rest 0 v.cap (s1.oldLen - s1.idx + 1) sl1 s1 w1 hi (by rw [hi.oldLen]; exact Nat.lt_succ_self _)
      rw [hout] at hend2
      obtain ⟨v', hbs, hn, hall, hout2, hrep, hpan⟩ := hend2.backshift h hsl w2
      rw [if_neg (by simp), dfDrop_unfold, if_neg (by simp [hi.flag])]
      simp only [hrun2, hbs]
      refine ⟨v', w2, if b then some ysT else none, s2.idx, ysT, ysD, false, rfl, hn, hall, hout2, hlenT, hrep, by rw [hev2, hev1],
        hb2.trans hb1, hn2.trans hn1, (fun hh => nomatch hh), ?_, ?_⟩
      · intro m hm
        cases b with
        | false => cases hm
        | true => exact ⟨(Option.some.inj hm).symm, fun _ => (hfin2 rfl).2⟩
      · intro htot hnp _
        have he : e = true := by
          cases e with
          | true => rfl
          | false => obtain ⟨hlt, hcb⟩ := hpan rfl; exact absurd hcb (htot _ _)
        have hb : b = true := hnp2 hnp he
        subst hb
        have hidx := (hfin2 rfl).2
        refine ⟨rfl, hidx, fun hlt => ?_⟩
        -- the caller's `next` calls had already reached the end
        have h3 : outN cb xs s1.idx = outN cb xs s2.idx := by rw [hfin rfl hlt, hidx]
        rw [hout, hout2, List.nil_append] at h3
        exact List.self_eq_append_right.mp h3

theorem drainFilterOp_own {c : Cfg} {v : VS} {xs : List Elem} {ins held : List Nat} (hd : c.needsDrop = true)
    (h : RepB c v xs) (cb : Nat → Elem → Option Bool) (take : Nat) (forget : Bool) (w : W) (ho : Own ins xs w.evs held) :
    ∃ ys lk, RepB c (drainFilterOp c v cb take forget w).1 ys ∧
      Own ins ys (drainFilterOp c v cb take forget w).2.1.evs (lk ++ held) ∧ (forget = false → lk = []) := by
  obtain ⟨v', w', r, n, ysT, ysD, leak, hrun, hn, hall, hout, _, hrep, hev, _, _, hleak, _, _⟩ := drainFilterOp_spec h cb take forget w
  have hp := (kept_out_perm cb xs n hn (fun j hj => hall j hj (by omega))).append_right (xs.drop n)
  rw [List.take_append_drop, hout] at hp
  have hD : evDrops w'.evs = evDrops w.evs ++ ids ysD := by simp [hev, evDrops_dropEvs c hd, evDrops_movedEvs]
  have hM : evMoved w'.evs = evMoved w.evs ++ ids ysT := by simp [hev, evMoved_dropEvs, evMoved_movedEvs]
  rw [hrun]
  cases leak with
  | false =>
    refine ⟨_, [], hrep, ho.split _ ysD ysT [] (hp.trans ?_) hD hM, fun _ => rfl⟩
    rw [List.perm_iff_count]; intro a
    simp only [Bool.false_eq_true, ↓reduceIte, List.count_append, List.count_nil]; omega
  | true =>
    obtain ⟨hf, rfl⟩ := hleak rfl
    refine ⟨_, ids (keptN cb xs n ++ xs.drop n), hrep, ho.split _ [] ysT _ (hp.trans ?_) hD hM, fun hff => by rw [hf] at hff; cases hff⟩
    rw [List.perm_iff_count]; intro a
    simp only [↓reduceIte, List.count_append, List.count_nil]; omega

theorem retain_own {c : Cfg} {v : VS} {xs : List Elem} {ins held : List Nat} (hd : c.needsDrop = true)
    (h : RepB c v xs) (cb : Nat → Elem → Option Bool) (w : W) (ho : Own ins xs w.evs held) :
    ∃ ys, RepB c (retain c v cb w).1 ys ∧ Own ins ys (retain c v cb w).2.1.evs held := by
  -- `retain` only rewraps the result of `drainFilterOp`
  have h1 : (retain c v cb w).1 = (drainFilterOp c v (fun k e => (cb k e).map (!·)) 0 false w).1 := by
    unfold retain; split <;> simp_all
  have h2 : (retain c v cb w).2.1 = (drainFilterOp c v (fun k e => (cb k e).map (!·)) 0 false w).2.1 := by
    unfold retain; split <;> simp_all
  obtain ⟨ys, lk, hr, hown, hlk⟩ := drainFilterOp_own hd h (fun k e => (cb k e).map (!·)) 0 false w ho
  rw [hlk rfl] at hown
  exact ⟨ys, h1 ▸ hr, h2 ▸ hown⟩

theorem drainFilterOp_pure {c : Cfg} {v : VS} {xs : List Elem} (h : RepB c v xs) (f : Elem → Bool) (take : Nat) (w : W)
    (hnp : c.dropPanicAt = none) :
    ∃ v' w', drainFilterOp c v (fun _ e => some (f e)) take false w = (v', w', some ((xs.filter f).take take)) ∧
      RepB c v' (xs.filter (fun e => !f e)) ∧
      w'.evs = w.evs ++ movedEvs ((xs.filter f).take take) ++ dropEvs c ((xs.filter f).drop take) ∧ w'.bad = w.bad := by
  obtain ⟨v', w', r, n, ysT, ysD, leak, hrun, hn, hall, hout, hlenT, hrep, hev, hb, _, hleak, _, htot⟩ :=
    drainFilterOp_spec h (fun _ e => some (f e)) take false w
  obtain ⟨hr, hnl, hshort⟩ := htot (fun _ _ => by simp) hnp rfl
  subst hnl
  have hleakf : leak = false := by
    cases leak with
    | false => rfl
    | true => have := (hleak rfl).1; cases this
  subst hleakf
  obtain ⟨hk, ho⟩ := keptN_pure f xs xs.length (Nat.le_refl _)
  rw [List.take_length] at hk ho
  rw [ho] at hout
  have hT : ysT = (xs.filter f).take take ∧ ysD = (xs.filter f).drop take := by
    by_cases hlt : ysT.length < take
    · have hD := hshort hlt
      subst hD
      simp only [List.append_nil] at hout
      rw [hout]
      exact ⟨(List.take_of_length_le (by omega)).symm, (List.drop_of_length_le (by omega)).symm⟩
    · have hlen : ysT.length = take := by omega
      rw [hout, ← hlen]
      exact ⟨by simp, by simp⟩
  obtain ⟨hT1, hT2⟩ := hT
  subst hT1 hT2
  refine ⟨v', w', by rw [hrun, hr], ?_, hev, hb⟩
  simpa [hk] using hrep

theorem retain_pure {c : Cfg} {v : VS} {xs : List Elem} (h : RepB c v xs) (f : Elem → Bool) (w : W)
    (hnp : c.dropPanicAt = none) :
    ∃ v' w', retain c v (fun _ e => some (f e)) w = (v', w', some ()) ∧ RepB c v' (xs.filter f) ∧
      w'.evs = w.evs ++ dropEvs c (xs.filter (fun e => !f e)) ∧ w'.bad = w.bad := by
  obtain ⟨v', w', hrun, hrep, hev, hb⟩ := drainFilterOp_pure h (fun e => !f e) 0 w hnp
  refine ⟨v', w', ?_, by simpa using hrep, by simpa [movedEvs] using hev, hb⟩
  unfold retain
  have : (fun k e => Option.map (fun x => !x) ((fun _ e => some (f e)) k e)) = (fun (_ : Nat) e => some (!f e)) := by
    funext k e; rfl
  rw [this, hrun]

theorem dfBackshift_eq (c : Cfg) (v : VS) (s : DF) (w : W) :
    dfBackshift c v s w =
      if s.idx < s.oldLen ∧ s.del > 0 then
        ({ (v.copy c s.idx (s.idx - s.del) (s.oldLen - s.idx) w).1 with len := s.oldLen - s.del }, (v.copy c s.idx (s.idx - s.del) (s.oldLen - s.idx) w).2)
      else ({ v with len := s.oldLen - s.del }, w) := by
  unfold dfBackshift
  by_cases h : s.idx < s.oldLen ∧ s.del > 0
  · rw [if_pos h, if_pos h]
  · rw [if_neg h, if_neg h]

theorem retain_eq (c : Cfg) (v : VS) (cb : Nat → Elem → Option Bool) (w : W) :
    V.retain c v cb w =
      match dfDrop c (fun k e => (cb k e).map (!·)) { v with len := 0 } ⟨0, 0, v.len, 0, false⟩ w with
      | (v', w', ok) => (v', w', if ok then some () else none) := by
  unfold V.retain drainFilterOp
  dsimp only [dfTake]
  rcases dfDrop c (fun k e => (cb k e).map (!·)) { v with len := 0 } ⟨0, 0, v.len, 0, false⟩ w with ⟨a, b, _ | _⟩ <;> rfl

end Bump.V
