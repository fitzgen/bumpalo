import BumpVerif.Proofs.Realloc
/-! Byte-level meaning of the memory effects the model records (`ptr::copy` = memmove,
`copy_nonoverlapping`, zero fill) and what `grow`/`shrink` therefore do to block contents. -/
namespace Bump

abbrev Mem := Nat → UInt8

def applyEff (m : Mem) : MemEff → Mem
  | .copy src dst n => fun a => if dst ≤ a ∧ a < dst + n then m (src + (a - dst)) else m a
  | .copyNonoverlapping src dst n => fun a => if dst ≤ a ∧ a < dst + n then m (src + (a - dst)) else m a
  | .zero dst n => fun a => if dst ≤ a ∧ a < dst + n then 0 else m a

def applyEffs (m : Mem) (es : List MemEff) : Mem := es.foldl applyEff m

theorem applyEffs_append (m : Mem) (a b : List MemEff) : applyEffs m (a ++ b) = applyEffs (applyEffs m a) b := by
  simp [applyEffs, List.foldl_append]

theorem applyEffs_snoc (m : Mem) (es : List MemEff) (e : MemEff) : applyEffs m (es ++ [e]) = applyEff (applyEffs m es) e := by
  rw [applyEffs_append]; rfl

theorem copy_spec (m : Mem) (src dst n : Nat) :
    (∀ i, i < n → applyEff m (.copy src dst n) (dst + i) = m (src + i)) ∧
    (∀ a, ¬ (dst ≤ a ∧ a < dst + n) → applyEff m (.copy src dst n) a = m a) := by
  constructor
  · intro i hi
    simp only [applyEff]
    rw [if_pos ⟨by omega, by omega⟩]; congr 1; omega
  · intro a ha; simp only [applyEff]; rw [if_neg ha]

/-- the model gives `copy_nonoverlapping` the meaning of `copy`; that its ranges never overlap is
a separate obligation (`rangesOverlap` in the model, `ReallocPost.ok`) -/
theorem copyNonoverlapping_spec (m : Mem) (src dst n : Nat) :
    (∀ i, i < n → applyEff m (.copyNonoverlapping src dst n) (dst + i) = m (src + i)) ∧
    (∀ a, ¬ (dst ≤ a ∧ a < dst + n) → applyEff m (.copyNonoverlapping src dst n) a = m a) :=
  copy_spec m src dst n

/-- Contents clause of `grow`/`shrink` (C02, C12): after a successful call the first
`min(old,new)` bytes of the new block equal the old block's, and every byte outside the new
block `[q, q+nsz)` is unchanged — in particular every other live block, which is disjoint from it. -/
theorem realloc_contents {E s s' p osz nsz nal q} (m : Mem) (post : ReallocPost E s s' p osz nsz nal (.ok q)) :
    let m0 := applyEffs m s.mem
    let m1 := applyEffs m s'.mem
    (∀ i, i < min osz nsz → m1 (q + i) = m0 (p + i)) ∧
    (∀ a, ¬ (q ≤ a ∧ a < q + nsz) → m1 a = m0 a) := by
  intro m0 m1
  obtain ⟨_, _, _, _, _, _, hm⟩ := post.ok q rfl
  rcases hm with ⟨rfl, hmem⟩ | hmem
  · rw [show m1 = m0 from congrArg (applyEffs m) hmem]
    exact ⟨fun _ _ => rfl, fun _ _ => rfl⟩
  · -- both kinds of copy mean the same to `applyEff`
    have key : m1 = applyEff m0 (.copy p q (min osz nsz)) := by
      rcases hmem with ⟨hmem, _⟩ | hmem
      · exact (congrArg (applyEffs m) hmem).trans (applyEffs_append ..)
      · exact (congrArg (applyEffs m) hmem).trans (applyEffs_append ..)
    rw [key]
    have hle : min osz nsz ≤ nsz := Nat.min_le_right _ _
    exact ⟨(copy_spec m0 p q _).1, fun a ha => (copy_spec m0 p q _).2 a (by omega)⟩

end Bump
