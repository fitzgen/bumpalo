import BumpVerif.Proofs.Frame
/-! `shrink` and `grow` (lib.rs:2246-2371): alignment, placement, frame and copy facts. -/
namespace Bump
open Gen

/-- caller obligations for a block passed back to the arena: it was handed out by this arena
with this layout and is still live -/
structure BlockOK (a : Arena) (p osz oal : Nat) : Prop where
  oal_pow : IsPow2 oal
  oal_dvd : oal ∣ p
  m_dvd : a.M ∣ p
  pos : 0 < p
  hi : p + osz < 2 ^ 63
  loc : osz = 0 ∨ InChunk a p osz

theorem cur_block {E a p osz oal} (hE : EnvOK E) (h : ArenaWF E a) (hb : BlockOK a p osz oal)
    (hp : (a.cur E).ptr = p) : p + osz ≤ (a.cur E).footer := by
  rcases hb.loc with h0 | ⟨c, hc, hc1, hc2⟩
  · have := (cur_ok hE h).2.1; omega
  · cases hch : a.chunks with
    | nil => rw [hch] at hc; cases hc
    | cons x xs =>
      rw [Arena.cur_cons E hch] at hp ⊢
      rw [hch] at hc
      rcases List.mem_cons.mp hc with rfl | hc
      · exact hc2
      · -- `p` would lie in two disjoint chunks
        have hwx := h.head hch
        have hwc := h.chunks c (by rw [hch]; exact List.mem_cons_of_mem _ hc)
        have hxc : Disj x.data x.size c.data c.size := (List.pairwise_cons.mp (hch ▸ h.disj)).1 c hc
        have f1 := footer_add hwx; have f2 := footer_add hwc
        have := hwc.ptr_ge; have := hwx.ptr_ge; have := hwx.ptr_le; have := FS
        unfold Disj at hxc; omega

structure ReallocPost (E : Nat) (s s' : St) (p osz nsz nal : Nat) (o : Outcome Nat) : Prop where
  nobad : ∀ w, o ≠ .bad w
  nopanic : o ≠ .panic
  m_eq : s'.a.M = s.a.M
  lim_eq : s'.a.limit = s.a.limit
  hi : ∀ q, o = .ok q → q + nsz < 2 ^ 63
  ok : ∀ q, o = .ok q → ArenaWF E s'.a ∧ nal ∣ q ∧ s.a.M ∣ q ∧ 0 < q ∧
        (nsz = 0 ∨ InChunk s'.a q nsz) ∧
        (∀ b bn, 0 < bn → InChunk s.a b bn → (osz = 0 ∨ Disj b bn p osz) → InChunk s'.a b bn ∧ (nsz = 0 ∨ Disj b bn q nsz)) ∧
        ((q = p ∧ s'.mem = s.mem) ∨
         (s'.mem = s.mem ++ [.copyNonoverlapping p q (min osz nsz)] ∧ Disj p (min osz nsz) q (min osz nsz)) ∨
         (s'.mem = s.mem ++ [.copy p q (min osz nsz)]))
  err : o = .err → s'.a = s.a ∧ s'.mem = s.mem ∧ ∃ refs, AllRefused refs ∧ s'.evs = s.evs ++ refs

theorem ReallocPost.of_ok {E s s' p osz nsz nal q} (hM : s'.a.M = s.a.M) (hL : s'.a.limit = s.a.limit)
    (hi : q + nsz < 2 ^ 63)
    (ok : ArenaWF E s'.a ∧ nal ∣ q ∧ s.a.M ∣ q ∧ 0 < q ∧ (nsz = 0 ∨ InChunk s'.a q nsz) ∧
      (∀ b bn, 0 < bn → InChunk s.a b bn → (osz = 0 ∨ Disj b bn p osz) → InChunk s'.a b bn ∧ (nsz = 0 ∨ Disj b bn q nsz)) ∧
      ((q = p ∧ s'.mem = s.mem) ∨
       (s'.mem = s.mem ++ [.copyNonoverlapping p q (min osz nsz)] ∧ Disj p (min osz nsz) q (min osz nsz)) ∨
       (s'.mem = s.mem ++ [.copy p q (min osz nsz)]))) :
    ReallocPost E s s' p osz nsz nal (.ok q) :=
  ⟨nofun, nofun, hM, hL, fun _ hq => by cases hq; exact hi, fun _ hq => by cases hq; exact ok, nofun⟩

theorem ReallocPost.of_err {E s s' p osz nsz nal refs} (ha : s'.a = s.a) (hm : s'.mem = s.mem) (hrf : AllRefused refs)
    (hev : s'.evs = s.evs ++ refs) : ReallocPost E s s' p osz nsz nal .err :=
  ⟨nofun, nofun, by rw [ha], by rw [ha], nofun, nofun, fun _ => ⟨ha, hm, refs, hrf, hev⟩⟩

theorem ReallocPost.of_envBad {E s s' p osz nsz nal} (hM : s'.a.M = s.a.M) (hL : s'.a.limit = s.a.limit) :
    ReallocPost E s s' p osz nsz nal .envBad :=
  ⟨nofun, nofun, hM, hL, nofun, nofun, nofun⟩

/-- the block stays where it is and nothing is touched (`shrink` that is not worth a move) -/
theorem ReallocPost.keep {E s p osz oal nsz nal} (h : ArenaWF E s.a) (hb : BlockOK s.a p osz oal) (hal : nal ∣ p)
    (hle : nsz ≤ osz) : ReallocPost E s s p osz nsz nal (.ok p) := by
  refine .of_ok rfl rfl (by have := hb.hi; omega) ⟨h, hal, hb.m_dvd, hb.pos, ?_, ?_, Or.inl ⟨rfl, rfl⟩⟩
  · rcases hb.loc with h0 | ⟨c, hc, h1, h2⟩
    · exact Or.inl (by omega)
    · exact Or.inr ⟨c, hc, h1, by omega⟩
  · intro b bn _ hib hd
    exact ⟨hib, by unfold Disj at *; omega⟩

theorem rangesOverlap_false {a b n : Nat} (h : Disj a n b n) : rangesOverlap a b n = false := by
  unfold rangesOverlap
  rw [Bool.and_assoc, Bool.and_eq_false_iff, Bool.and_eq_false_iff]
  simp only [decide_eq_false_iff_not]
  unfold Disj at h; omega

/-- Reallocation by a fresh allocation and `copy_nonoverlapping` of the first `min(old, new)`
bytes: the fallback of `grow` and the misaligned case of `shrink`.  The new block is disjoint
from every region of a used part, in particular from the old block. -/
theorem realloc_by_alloc {E p osz oal nsz nal n why} (s : St) (hE : EnvOK E) (h : ArenaWF E s.a)
    (hb : BlockOK s.a p osz oal) (hN : IsPow2 nal) (hlay : nsz + nal ≤ 2 ^ 63) (hn : min osz nsz = n) :
    ReallocPost E s (bindO (tryAllocLayout E nsz nal s) fun s q => copyNonoverlapping p q n why s).1 p osz nsz nal
      (bindO (tryAllocLayout E nsz nal s) fun s q => copyNonoverlapping p q n why s).2 := by
  obtain ⟨sp, hnp⟩ := tryAllocLayout_spec (sz := nsz) (al := nal) s hE h hN hlay
  generalize tryAllocLayout E nsz nal s = r at sp hnp
  obtain ⟨s1, o1⟩ := r
  cases o1 with
  | ok q =>
    obtain ⟨hwf', ha, hm, hpos, hsh, -⟩ := sp.ok q rfl
    obtain ⟨f1, f2⟩ := hsh.frame h hwf'
    have hdisj : Disj p n q n := by
      rcases hb.loc with h0 | hin
      · unfold Disj; omega
      · have := (f1 p osz hin).2
        unfold Disj at this ⊢; omega
    simp only [bindO, copyNonoverlapping, rangesOverlap_false hdisj, Bool.false_eq_true, ↓reduceIte]
    refine .of_ok sp.m_eq sp.lim_eq (hsh.hi hE h hwf') ⟨hwf', ha, hm, hpos, ?_, ?_, Or.inr (Or.inl ?_)⟩
    · exact (Nat.eq_zero_or_pos nsz).imp_right f2
    · intro b bn _ hib _
      exact ⟨(f1 b bn hib).1, Or.inr (f1 b bn hib).2.symm⟩
    · rw [hn]; exact ⟨congrArg (· ++ _) sp.mem_eq, hdisj⟩
  | err =>
    obtain ⟨ha, refs, hrf, hev⟩ := sp.fail (Or.inl rfl)
    exact .of_err ha sp.mem_eq hrf hev
  | panic => exact absurd rfl hnp
  | bad w => exact absurd rfl (sp.nobad w)
  | envBad => exact .of_envBad sp.m_eq sp.lim_eq

/-- Reallocation inside the newest chunk: the block `[p, p+osz)` starts at the finger, the finger
moves to `q` and the new block `[q, q+nsz)` ends no higher than the old one did.  Everything
else in a used part lies above the old block's end, hence stays in the used part and clear of
the new block. -/
theorem inplace_frame {E a a' p osz q nsz} (h : ArenaWF E a) (hp : (a.cur E).ptr = p)
    (hblk : p + osz ≤ (a.cur E).footer) (hq : (a.cur E).data ≤ q) (hn : q + nsz ≤ p + osz)
    (sh : (a.chunks = [] ∧ a' = a ∧ q = E) ∨ ∃ c cs, a.chunks = c :: cs ∧ a'.chunks = { c with ptr := q } :: cs) :
    (nsz = 0 ∨ InChunk a' q nsz) ∧
    ∀ b bn, 0 < bn → InChunk a b bn → (osz = 0 ∨ Disj b bn p osz) → InChunk a' b bn ∧ (nsz = 0 ∨ Disj b bn q nsz) := by
  rcases sh with ⟨hnil, rfl, rfl⟩ | ⟨c, cs, hc, hc'⟩
  · rw [Arena.cur_nil q hnil] at hp hblk
    refine ⟨Or.inl (by simp only [emptyChunk, Chunk.footer] at hp hblk; omega), ?_⟩
    intro b bn _ ⟨x, hx, _⟩
    rw [hnil] at hx; cases hx
  · rw [Arena.cur_cons E hc] at hp hblk hq
    obtain ⟨f1, f2⟩ := setPtr_frame h hc hc' hq hn hblk
    refine ⟨Or.inr f2, fun b bn hbn hib hd => ?_⟩
    obtain ⟨g1, g2⟩ := f1 b bn hib (fun hpb => by unfold Disj at hd; omega)
    exact ⟨g1, Or.inr g2.symm⟩

theorem shrink_spec {E p osz oal nsz nal} (s : St) (hE : EnvOK E) (h : ArenaWF E s.a)
    (hb : BlockOK s.a p osz oal) (hN : IsPow2 nal) (hle : nsz ≤ osz) (hlay : nsz + nal ≤ 2 ^ 63) :
    ReallocPost E s (shrink E p osz oal nsz nal s).1 p osz nsz nal (shrink E p osz oal nsz nal s).2 := by
  have hmin : min osz nsz = nsz := Nat.min_eq_right hle
  unfold shrink
  by_cases hlt : oal < nal
  · rw [if_pos hlt]
    by_cases hal : p % nal = 0
    · rw [if_pos hal]; exact .keep h hb (Nat.dvd_of_mod_eq_zero hal) hle
    · rw [if_neg hal]; exact realloc_by_alloc s hE h hb hN hlay hmin
  · rw [if_neg hlt]
    have hnal_dvd : nal ∣ p := Nat.dvd_trans (hN.dvd_of_le hb.oal_pow (Nat.le_of_not_lt hlt)) hb.oal_dvd
    rw [if_neg (not_not_intro (Nat.mod_eq_zero_of_dvd hnal_dvd)), if_neg (Nat.not_lt.mpr hle)]
    simp only
    by_cases hcond : (isLast E s.a p && decide (roundDownTo (osz - nsz) (max nal s.a.M) ≥ (osz + 1) / 2)) = true
    · rw [if_pos hcond]
      rw [Bool.and_eq_true, decide_eq_true_eq] at hcond
      obtain ⟨hl, hdelta⟩ := hcond
      have hp : (s.a.cur E).ptr = p := eq_of_beq hl
      have hblk := cur_block hE h hb hp
      have hmaxpow : IsPow2 (max nal s.a.M) := hN.max h.mpow
      have hdle := roundDownTo_le (osz - nsz) (max nal s.a.M)
      have hddv := roundDownTo_dvd (osz - nsz) (max nal s.a.M)
      generalize roundDownTo (osz - nsz) (max nal s.a.M) = delta at hdelta hdle hddv ⊢
      have hMd : s.a.M ∣ delta := Nat.dvd_trans (h.mpow.dvd_of_le hmaxpow (Nat.le_max_right ..)) hddv
      have hNd : nal ∣ delta := Nat.dvd_trans (hN.dvd_of_le hmaxpow (Nat.le_max_left ..)) hddv
      have hqM : s.a.M ∣ p + delta := Nat.dvd_add hb.m_dvd hMd
      -- the move is at least half the old size, so the new block starts above the `nsz` bytes copied from `p`
      have hhalf : nsz ≤ delta := by omega
      have hfit : p + delta + nsz ≤ p + osz := by omega
      have hge : (s.a.cur E).data ≤ p + delta := Nat.le_trans (hp ▸ (cur_ok hE h).1) (Nat.le_add_right ..)
      obtain ⟨a', hs, hwf', hm, hl', sh⟩ := setCurPtr_wf h hge
        (Nat.le_trans (Nat.le_trans (Nat.le_add_right _ nsz) hfit) hblk) hqM
      have hdisj : Disj p nsz (p + delta) nsz := Or.inl (Nat.add_le_add_left hhalf p)
      rw [hp, if_neg (not_not_intro (Nat.mod_eq_zero_of_dvd hqM)), storePtr, hs]
      simp only [bindO, copyNonoverlapping, rangesOverlap_false hdisj, Bool.false_eq_true, ↓reduceIte]
      obtain ⟨f1, f2⟩ := inplace_frame h hp hblk hge hfit sh
      exact .of_ok hm hl' (Nat.lt_of_le_of_lt hfit hb.hi) ⟨hwf', Nat.dvd_add hnal_dvd hNd, hqM,
        Nat.lt_of_lt_of_le hb.pos (Nat.le_add_right ..), f1, f2, Or.inr (Or.inl (by rw [hmin]; exact ⟨rfl, hdisj⟩))⟩
    · rw [if_neg hcond]; exact .keep h hb hnal_dvd hle

theorem growFallback_spec {E p osz oal nsz nal} (s : St) (hE : EnvOK E) (h : ArenaWF E s.a)
    (hb : BlockOK s.a p osz oal) (hN : IsPow2 nal) (hle : osz ≤ nsz) (hlay : nsz + nal ≤ 2 ^ 63) :
    ReallocPost E s (growFallback E p osz nsz nal s).1 p osz nsz nal (growFallback E p osz nsz nal s).2 :=
  realloc_by_alloc s hE h hb hN hlay (Nat.min_eq_left hle)

theorem grow_spec {E p osz oal nsz nal} (s : St) (hE : EnvOK E) (h : ArenaWF E s.a)
    (hb : BlockOK s.a p osz oal) (hN : IsPow2 nal) (hle : osz ≤ nsz) (hlay : nsz + nal ≤ 2 ^ 63) :
    ReallocPost E s (grow E p osz oal nsz nal s).1 p osz nsz nal (grow E p osz oal nsz nal s).2 := by
  have hmin : min osz nsz = osz := Nat.min_eq_left hle
  have herr : ReallocPost E s s p osz nsz nal .err := .of_err rfl rfl AllRefused.nil (List.append_nil _).symm
  unfold grow
  cases hru : roundUpTo nsz s.a.M with
  | none => exact herr
  | some ns =>
    have r1 := (roundUpTo_some h.m_pos hru).1
    simp only
    by_cases hcond : (decide (oal ≥ nal) && isLast E s.a p) = true
    · rw [if_pos hcond]
      rw [Bool.and_eq_true, decide_eq_true_eq] at hcond
      obtain ⟨hge, hl⟩ := hcond
      have hp : (s.a.cur E).ptr = p := eq_of_beq hl
      have hblk := cur_block hE h hb hp
      rw [if_neg (by omega)]
      by_cases hv : validLayout (ns - osz) oal = true
      · rw [hv, Bool.not_true, if_neg Bool.false_ne_true]
        rcases tryFast_cases (sz := ns - osz) (al := oal) hE h hb.oal_pow (validLayout_bound hv) with ⟨htf, _⟩ | ⟨a', q, htf, _, hwf', eff⟩
        · rw [htf]
          exact growFallback_spec s hE h hb hN hle hlay
        · rw [htf]
          -- the block is extended downwards by `ns - osz ≥ nsz - osz` bytes, so `[q, q+nsz)` ends no higher than `[p, p+osz)`
          obtain ⟨b1, b2, sh⟩ := eff.bounds
          have hfit : q + nsz ≤ p + osz := by omega
          obtain ⟨f1, f2⟩ := inplace_frame h hp hblk b1 hfit sh
          exact .of_ok eff.m_eq eff.lim_eq (Nat.lt_of_le_of_lt hfit hb.hi)
            ⟨hwf', Nat.dvd_trans (hN.dvd_of_le hb.oal_pow hge) eff.al_dvd, eff.m_dvd, eff.nz, f1, f2,
              Or.inr (Or.inr (by rw [hmin]; rfl))⟩
      · rw [Bool.not_eq_true] at hv
        rw [hv, Bool.not_false, if_pos rfl]
        exact herr
    · rw [if_neg hcond]
      exact growFallback_spec s hE h hb hN hle hlay

end Bump
