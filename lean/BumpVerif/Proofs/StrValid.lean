import BumpVerif.Proofs.StrUtf8
/-!
# Validity, whole-string decoding, char boundaries
-/
namespace Bump.Str

@[simp] theorem encode_nil : encode [] = [] := rfl
@[simp] theorem encode_cons (c : Char) (l : List Char) : encode (c :: l) = encChar c ++ encode l := by
  simp [encode, List.flatMap_cons]
theorem encode_append (l₁ l₂ : List Char) : encode (l₁ ++ l₂) = encode l₁ ++ encode l₂ := by
  simp [encode, List.flatMap_append]
theorem encode_singleton (c : Char) : encode [c] = encChar c := by simp

theorem encChar_length_pos (c : Char) : 0 < (encChar c).length := by
  rw [String.length_utf8EncodeChar]; exact Char.utf8Size_pos c
theorem encChar_length_le (c : Char) : (encChar c).length ≤ 4 := by
  rw [String.length_utf8EncodeChar]; exact Char.utf8Size_le_four c
theorem encChar_ne_nil (c : Char) : encChar c ≠ [] := by
  intro h; have := encChar_length_pos c; rw [h] at this; simp at this

theorem Valid_nil : Valid [] := ⟨[], rfl⟩
theorem Valid_encode (l : List Char) : Valid (encode l) := ⟨l, rfl⟩
theorem Valid_encChar (c : Char) : Valid (encChar c) := ⟨[c], by simp⟩
theorem Valid_append {a b : Bytes} (ha : Valid a) (hb : Valid b) : Valid (a ++ b) := by
  obtain ⟨la, rfl⟩ := ha; obtain ⟨lb, rfl⟩ := hb
  exact ⟨la ++ lb, (encode_append la lb).symm⟩

/-- `Valid` is core's `ByteArray.IsValidUTF8` on the same bytes -/
theorem Valid_iff_core (b : Bytes) : Valid b ↔ (b.toByteArray).IsValidUTF8 := by
  constructor
  · rintro ⟨l, rfl⟩; exact ⟨l, rfl⟩
  · rintro ⟨l, h⟩
    refine ⟨l, ?_⟩
    have := congrArg (fun a => a.data.toList) h
    simpa [List.utf8Encode, encode] using this

theorem isCont_tagged (x : Nat) : isCont (UInt8.ofNat (x % 0x40 + 0x80)) = true := by
  rw [isCont_iff, toNat_ofNat_lt (by omega)]; omega

theorem isCont_lead {n : Nat} (h : n < 0x80 ∨ 0xC0 ≤ n) (h' : n < 256) : isCont (UInt8.ofNat n) = false := by
  rw [isCont_false_iff, toNat_ofNat_lt h']; omega

theorem enc_shape (c : Char) :
    ∃ b t, encChar c = b :: t ∧ isCont b = false ∧ (∀ x ∈ t, isCont x = true) ∧ t.length ≤ 3 := by
  have conts (l : List Nat) : ∀ x ∈ l.map (fun v => UInt8.ofNat (v % 0x40 + 0x80)), isCont x = true := by
    intro x hx; obtain ⟨v, -, rfl⟩ := List.mem_map.mp hx; exact isCont_tagged v
  by_cases h1 : c.toNat ≤ 0x7f
  · exact ⟨_, _, encChar_1 c h1, isCont_lead (by omega) (by omega), conts [], by simp⟩
  by_cases h2 : c.toNat ≤ 0x7ff
  · exact ⟨_, _, encChar_2 c (by omega) h2, isCont_lead (by omega) (by omega), conts [c.toNat], by simp⟩
  by_cases h3 : c.toNat ≤ 0xffff
  · exact ⟨_, _, encChar_3 c (by omega) h3, isCont_lead (by omega) (by omega), conts [c.toNat / 64, c.toNat], by simp⟩
  · exact ⟨_, _, encChar_4 c (by omega), isCont_lead (by omega) (by omega),
      conts [c.toNat / 4096, c.toNat / 64, c.toNat], by simp⟩

theorem decodeFuel_nil (f : Nat) : decodeFuel f [] = some [] := by cases f <;> rfl

theorem decodeFuel_succ (f : Nat) {bs : Bytes} (h : bs ≠ []) : decodeFuel (f + 1) bs =
    match decodeHead bs with
    | none => none
    | some (c, n) => (decodeFuel f (bs.drop n)).map (c :: ·) := by
  match bs, h with
  | _ :: _, _ => rfl

theorem decodeFuel_encode (l : List Char) : ∀ f, (encode l).length ≤ f → decodeFuel f (encode l) = some l := by
  induction l with
  | nil => intro f _; exact decodeFuel_nil f
  | cons c l ih =>
    intro f hf
    have hpos := encChar_length_pos c
    rw [encode_cons, List.length_append] at hf
    match f, hf with
    | 0, hf => omega
    | f + 1, hf =>
      rw [encode_cons, decodeFuel_succ f (List.append_ne_nil_of_left_ne_nil (encChar_ne_nil c) _), decodeHead_enc]
      simp only [List.drop_left' rfl, ih f (by omega)]
      rfl

theorem decodeFuel_some : ∀ (f : Nat) (bs : Bytes) (l : List Char), decodeFuel f bs = some l → bs = encode l
  | f, [], _, h => by rw [decodeFuel_nil] at h; cases h; rfl
  | 0, _ :: _, _, h => by cases h
  | f + 1, b :: bs, l, h => by
    rw [decodeFuel_succ f (List.cons_ne_nil _ _)] at h
    cases hd : decodeHead (b :: bs) with
    | none => rw [hd] at h; cases h
    | some p =>
      rw [hd] at h
      obtain ⟨l', hl', rfl⟩ := Option.map_eq_some_iff.mp h
      rw [encode_cons, ← decodeFuel_some f _ _ hl']
      exact (decodeHead_some hd).1

theorem decodeAll_encode (l : List Char) : decodeAll (encode l) = some l :=
  decodeFuel_encode l _ (Nat.le_refl _)

theorem decodeAll_some {bs : Bytes} {l : List Char} (h : decodeAll bs = some l) : bs = encode l :=
  decodeFuel_some _ _ _ h

theorem encode_inj {l₁ l₂ : List Char} (h : encode l₁ = encode l₂) : l₁ = l₂ := by
  have h1 := decodeAll_encode l₁
  rw [h, decodeAll_encode] at h1
  exact (Option.some.inj h1).symm

@[simp] theorem chars_encode (l : List Char) : chars (encode l) = l := by
  simp [chars, decodeAll_encode]

theorem Valid_iff_validate (b : Bytes) : Valid b ↔ validate b = true := by
  constructor
  · rintro ⟨l, rfl⟩; simp [validate, decodeAll_encode]
  · intro h
    simp only [validate, Option.isSome_iff_exists] at h
    obtain ⟨l, hl⟩ := h
    exact ⟨l, decodeAll_some hl⟩

instance (b : Bytes) : Decidable (Valid b) := decidable_of_iff _ (Valid_iff_validate b).symm

theorem Valid.eq_encode_chars {b : Bytes} (h : Valid b) : b = encode (chars b) := by
  obtain ⟨l, rfl⟩ := h; simp

theorem isCharBoundary_zero (b : Bytes) : isCharBoundary b 0 = true := by simp [isCharBoundary]
theorem isCharBoundary_length (b : Bytes) : isCharBoundary b b.length = true := by
  simp [isCharBoundary]
theorem isCharBoundary_gt {b : Bytes} {i : Nat} (h : b.length < i) : isCharBoundary b i = false := by
  have : i ≠ 0 := by omega
  have h2 : i ≥ b.length := by omega
  simp [isCharBoundary, this, h2]; omega

theorem isCharBoundary_le {b : Bytes} {i : Nat} (h : isCharBoundary b i = true) : i ≤ b.length := by
  by_cases h' : b.length < i
  · rw [isCharBoundary_gt h'] at h; simp at h
  · omega

theorem isCharBoundary_iff (b : Bytes) (i : Nat) : isCharBoundary b i = true ↔
    i = 0 ∨ i = b.length ∨ (i < b.length ∧ isCont (b.getD i 0) = false) := by
  unfold isCharBoundary
  by_cases h0 : i = 0
  · subst h0; exact ⟨fun _ => Or.inl rfl, fun _ => rfl⟩
  by_cases h1 : i ≥ b.length
  · rw [if_neg h0, if_pos h1, decide_eq_true_eq]; omega
  · rw [if_neg h0, if_neg h1, Bool.not_eq_true']
    constructor
    · intro h; exact Or.inr (Or.inr ⟨by omega, h⟩)
    · rintro (h | h | ⟨-, h⟩)
      · exact absurd h h0
      · omega
      · exact h

theorem isCharBoundary_enc_append (c : Char) {r : Bytes} (hr : r ≠ [] → isCont (r.getD 0 0) = false) (i : Nat) :
    isCharBoundary (encChar c ++ r) i = true ↔
      i = 0 ∨ ∃ j, i = (encChar c).length + j ∧ isCharBoundary r j = true := by
  obtain ⟨b, t, hbt, -, ht, -⟩ := enc_shape c
  rw [isCharBoundary_iff, List.length_append, List.getD_eq_getElem?_getD]
  by_cases h1 : i < (encChar c).length
  · match i, h1 with
    | 0, _ => exact ⟨fun _ => Or.inl rfl, fun _ => Or.inl rfl⟩
    | k + 1, h1 =>
      -- a byte of `c` after its lead is a continuation byte
      have hk : k < t.length := by rw [hbt] at h1; exact Nat.lt_of_succ_lt_succ h1
      have hc : isCont ((encChar c)[k + 1]?.getD 0) = true := by
        simp only [hbt, List.getElem?_cons_succ, List.getElem?_eq_getElem hk, Option.getD_some]
        exact ht _ (List.getElem_mem hk)
      rw [List.getElem?_append_left h1, hc]
      constructor
      · rintro (h | h | ⟨-, h⟩)
        · omega
        · omega
        · cases h
      · rintro (h | ⟨j, h, -⟩)
        · omega
        · omega
  · obtain ⟨j, rfl⟩ := Nat.exists_eq_add_of_le (Nat.le_of_not_lt h1)
    rw [List.getElem?_append_right (Nat.le_add_right _ _), Nat.add_sub_cancel_left, ← List.getD_eq_getElem?_getD]
    simp only [Nat.add_left_cancel_iff, Nat.add_lt_add_iff_left, exists_eq_left', isCharBoundary_iff r]
    refine or_congr_right ⟨Or.inr, fun h => h.elim (fun h0 => ?_) id⟩
    -- the end of `c`: the text ends here, or a lead byte follows
    subst h0
    by_cases hn : r = []
    · exact Or.inl (by rw [hn]; rfl)
    · exact Or.inr ⟨List.length_pos_iff.mpr hn, hr hn⟩

theorem encode_head_not_cont (l : List Char) (h : encode l ≠ []) : isCont ((encode l).getD 0 0) = false := by
  match l with
  | [] => exact absurd rfl h
  | c :: l =>
    obtain ⟨b, t, hbt, hb, -⟩ := enc_shape c
    rw [encode_cons, hbt]; exact hb

theorem boundary_iff (l : List Char) : ∀ i, isCharBoundary (encode l) i = true ↔
    ∃ k, k ≤ l.length ∧ i = (encode (l.take k)).length := by
  induction l with
  | nil =>
    intro i
    constructor
    · intro h; exact ⟨0, Nat.le_refl _, Nat.le_zero.mp (isCharBoundary_le h)⟩
    · rintro ⟨k, -, rfl⟩; rw [List.take_nil]; exact isCharBoundary_zero _
  | cons c l ih =>
    intro i
    rw [encode_cons, isCharBoundary_enc_append c (encode_head_not_cont l)]
    constructor
    · rintro (rfl | ⟨j, rfl, h⟩)
      · exact ⟨0, Nat.zero_le _, rfl⟩
      · obtain ⟨k, hk, rfl⟩ := (ih j).mp h
        exact ⟨k + 1, Nat.succ_le_succ hk, by rw [List.take_succ_cons, encode_cons, List.length_append]⟩
    · rintro ⟨k, hk, rfl⟩
      match k, hk with
      | 0, _ => exact Or.inl rfl
      | k + 1, hk =>
        refine Or.inr ⟨_, ?_, (ih _).mpr ⟨k, Nat.le_of_succ_le_succ hk, rfl⟩⟩
        rw [List.take_succ_cons, encode_cons, List.length_append]

theorem encode_take_append_drop (l : List Char) (k : Nat) : encode l = encode (l.take k) ++ encode (l.drop k) := by
  rw [← encode_append, List.take_append_drop]

theorem take_encode (l : List Char) (k : Nat) :
    (encode l).take (encode (l.take k)).length = encode (l.take k) := by
  rw [encode_take_append_drop l k]; exact List.take_left' rfl

theorem drop_encode (l : List Char) (k : Nat) :
    (encode l).drop (encode (l.take k)).length = encode (l.drop k) := by
  rw [encode_take_append_drop l k]; exact List.drop_left' rfl

theorem boundary_split {b : Bytes} (hb : Valid b) {i : Nat} (h : isCharBoundary b i = true) :
    ∃ l₁ l₂, chars b = l₁ ++ l₂ ∧ b.take i = encode l₁ ∧ b.drop i = encode l₂ ∧ i = (encode l₁).length := by
  obtain ⟨l, rfl⟩ := hb
  obtain ⟨k, hk, rfl⟩ := (boundary_iff l i).mp h
  exact ⟨l.take k, l.drop k, by simp, take_encode l k, drop_encode l k, rfl⟩

theorem boundary_of_split (l₁ l₂ : List Char) : isCharBoundary (encode (l₁ ++ l₂)) (encode l₁).length = true := by
  rw [boundary_iff]
  exact ⟨l₁.length, by simp, by simp⟩

theorem boundary_cases {s : Bytes} (hv : Valid s) (i : Nat) :
    isCharBoundary s i = false ∨ ∃ l₁ l₂, s = encode (l₁ ++ l₂) ∧ i = (encode l₁).length := by
  by_cases hb : isCharBoundary s i = true
  · obtain ⟨l₁, l₂, hl, -, -, rfl⟩ := boundary_split hv hb
    exact .inr ⟨l₁, l₂, by rw [hv.eq_encode_chars, hl], rfl⟩
  · exact .inl (by simpa using hb)

end Bump.Str
