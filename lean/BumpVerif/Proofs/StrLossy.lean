import BumpVerif.Proofs.StrOps
import BumpVerif.Model.Lossy
/-!
# One iteration of the lossy decoder's loop, by lead class

`lossyStep` (one iteration of the `while` loop of `Utf8LossyChunksIter::next`) is re-expressed
on the suffix `source[i..]` (`sufStep`) and brought to the decision tree of the Table 3-7 decoder
`decodeHead` (`sufStep_cons`: lead class, second-byte window, continuation bytes) — through the
GENERATED width table, whose 256 entries are checked against the RFC 3629 lead-byte classes by
kernel evaluation.
-/
namespace Bump.Str

/-- lead-byte classes of RFC 3629 -/
def rfcWidth (n : Nat) : Nat :=
  if n < 0x80 then 1 else if n < 0xC2 then 0 else if n < 0xE0 then 2 else if n < 0xF0 then 3
  else if n < 0xF5 then 4 else 0

/-- What the decoder needs of the generated table (bytes below 128 never reach the lookup):
an entry is 2 exactly for the two-byte leads `C2..DF`, it is 3 for `E0..EF` and 4 for `F0..F4`.
(Entries for other bytes only matter in that they are not 2: widths 3 and 4 are re-checked
against the lead by the `match` arms.)  Today's table equals `rfcWidth` everywhere. -/
def TableOK : Prop :=
  Gen.UTF8_CHAR_WIDTH.length = 256 ∧ ∀ n, n < 256 → 128 ≤ n →
    ((Gen.UTF8_CHAR_WIDTH.getD n 0 = 2 ↔ rfcWidth n = 2) ∧ (rfcWidth n = 3 → Gen.UTF8_CHAR_WIDTH.getD n 0 = 3)
      ∧ (rfcWidth n = 4 → Gen.UTF8_CHAR_WIDTH.getD n 0 = 4))

/-- all relevant entries of the regenerated table, checked by kernel evaluation in one pass over the table
(a `getD n` per entry costs a walk each) -/
theorem table_pass : (Gen.UTF8_CHAR_WIDTH.zipIdx.all fun (w, n) => decide (128 ≤ n →
    ((w = 2 ↔ rfcWidth n = 2) ∧ (rfcWidth n = 3 → w = 3) ∧ (rfcWidth n = 4 → w = 4)))) = true := by decide +kernel

theorem table_ok : TableOK := by
  have len : Gen.UTF8_CHAR_WIDTH.length = 256 := by decide +kernel
  refine ⟨len, fun n h1 h2 => ?_⟩
  have hl : n < Gen.UTF8_CHAR_WIDTH.length := len ▸ h1
  have := List.all_eq_true.mp table_pass (Gen.UTF8_CHAR_WIDTH[n], n)
    (List.mem_zipIdx_iff_getElem?.mpr (List.getElem?_eq_getElem hl))
  rw [List.getD_eq_getElem?_getD, List.getElem?_eq_getElem hl, Option.getD_some]
  exact of_decide_eq_true this h2

theorem width_two (b : UInt8) (h0 : 0xC2 ≤ b.toNat) (h1 : b.toNat < 0xE0) : utf8CharWidth b = 2 :=
  (table_ok.2 b.toNat (UInt8.toNat_lt b) (by omega)).1.mpr
    (by rw [rfcWidth, if_neg (by omega), if_neg (by omega), if_pos h1])

theorem width_ne_two (b : UInt8) (h0 : 0x80 ≤ b.toNat) (h : b.toNat < 0xC2 ∨ 0xF5 ≤ b.toNat) : utf8CharWidth b ≠ 2 := by
  intro hw
  have r := (table_ok.2 b.toNat (UInt8.toNat_lt b) h0).1.mp hw
  rcases h with h | h
  · rw [rfcWidth, if_neg (by omega), if_pos h] at r; cases r
  · rw [rfcWidth, if_neg (by omega), if_neg (by omega), if_neg (by omega), if_neg (by omega), if_neg (by omega)] at r
    cases r

theorem width_three (b : UInt8) (h0 : 0xE0 ≤ b.toNat) (h1 : b.toNat < 0xF0) : utf8CharWidth b = 3 :=
  (table_ok.2 b.toNat (UInt8.toNat_lt b) (by omega)).2.1
    (by rw [rfcWidth, if_neg (by omega), if_neg (by omega), if_neg (by omega), if_pos h1])

theorem width_four (b : UInt8) (h0 : 0xF0 ≤ b.toNat) (h1 : b.toNat < 0xF5) : utf8CharWidth b = 4 :=
  (table_ok.2 b.toNat (UInt8.toNat_lt b) (by omega)).2.2
    (by rw [rfcWidth, if_neg (by omega), if_neg (by omega), if_neg (by omega), if_neg (by omega), if_pos h1])

theorem notContTag_aux : ∀ n, n < 256 → notContTag (UInt8.ofNat n) = !(isCont (UInt8.ofNat n)) := by
  decide +kernel

theorem notContTag_eq (b : UInt8) : notContTag b = !(isCont b) := by
  have := notContTag_aux b.toNat (UInt8.toNat_lt b)
  rwa [UInt8.ofNat_toNat] at this

theorem bad3_false_iff (b s : UInt8) : bad3 b s = false ↔
    0xE0 ≤ b.toNat ∧ b.toNat ≤ 0xEF ∧ 0x80 ≤ s.toNat ∧ s.toNat ≤ 0xBF ∧ (b.toNat = 0xE0 → 0xA0 ≤ s.toNat)
      ∧ (b.toNat = 0xED → s.toNat ≤ 0x9F) := by
  simp only [bad3, Bool.not_eq_false', decide_eq_true_eq]; omega

theorem bad4_false_iff (b s : UInt8) : bad4 b s = false ↔
    0xF0 ≤ b.toNat ∧ b.toNat ≤ 0xF4 ∧ 0x80 ≤ s.toNat ∧ s.toNat ≤ 0xBF ∧ (b.toNat = 0xF0 → 0x90 ≤ s.toNat)
      ∧ (b.toNat = 0xF4 → s.toNat ≤ 0x8F) := by
  simp only [bad4, Bool.not_eq_false', decide_eq_true_eq]; omega

theorem bad3_of_lead (b s : UInt8) (h : b.toNat < 0xE0 ∨ 0xF0 ≤ b.toNat) : bad3 b s = true := by
  rw [← Bool.not_eq_false, bad3_false_iff]; omega

theorem bad4_of_lead (b s : UInt8) (h : b.toNat < 0xF0 ∨ 0xF5 ≤ b.toNat) : bad4 b s = true := by
  rw [← Bool.not_eq_false, bad4_false_iff]; omega

theorem bad3_eq (b s : UInt8) (h0 : 0xE0 ≤ b.toNat) (h1 : b.toNat < 0xF0) :
    bad3 b s = !(inRange (secondLo b.toNat) (secondHi b.toNat) s) := by
  rw [Bool.eq_iff_iff, Bool.not_eq_true', ← Bool.not_eq_true, ← Bool.not_eq_false, bad3_false_iff, second3 _ h0 h1]
  omega

theorem bad4_eq (b s : UInt8) (h0 : 0xF0 ≤ b.toNat) (h1 : b.toNat < 0xF5) :
    bad4 b s = !(inRange (secondLo b.toNat) (secondHi b.toNat) s) := by
  rw [Bool.eq_iff_iff, Bool.not_eq_true', ← Bool.not_eq_true, ← Bool.not_eq_false, bad4_false_iff, second4 _ h0 h1]
  omega

theorem safeGet_drop (src : Bytes) (i k : Nat) : safeGet src (i + k) = (src.drop i).getD k 0 := by
  unfold safeGet
  rw [List.getD_eq_getElem?_getD, List.getD_eq_getElem?_getD, List.getElem?_drop]
  split
  · rename_i h; rw [List.getElem?_eq_none (by omega)]; rfl
  · rfl

inductive SufR where
  | adv (n : Nat)
  | err (k : Nat)
  deriving DecidableEq

/-- `lossyStep` as a function of the suffix starting at `i` -/
def sufStep : Bytes → SufR
  | [] => .err 0
  | b0 :: t =>
    if b0.toNat < 128 then .adv 1
    else
      let w := utf8CharWidth b0
      if w = 2 then
        if notContTag (t.getD 0 0) then .err 1 else .adv 2
      else if w = 3 then
        if bad3 b0 (t.getD 0 0) then .err 1
        else if notContTag (t.getD 1 0) then .err 2 else .adv 3
      else if w = 4 then
        if bad4 b0 (t.getD 0 0) then .err 1
        else if notContTag (t.getD 1 0) then .err 2
        else if notContTag (t.getD 2 0) then .err 3 else .adv 4
      else .err 1

theorem ite_eq_false {α : Type} (c : Bool) (a b : α) : (if c = false then a else b) = if c = true then b else a := by
  cases c <;> rfl

set_option linter.unusedSimpArgs false in
/-- The loop body by lead class: the table read replaced by the class of the lead (`table_ok`), the `match` arms by the
second-byte window of Table 3-7, the tag tests by `isCont`. -/
theorem sufStep_cons (b0 : UInt8) (t : Bytes) : sufStep (b0 :: t) =
    if b0.toNat < 0x80 then .adv 1
    else if b0.toNat < 0xC2 then .err 1
    else if b0.toNat < 0xE0 then if isCont (t.getD 0 0) then .adv 2 else .err 1
    else if b0.toNat < 0xF0 then
      if inRange (secondLo b0.toNat) (secondHi b0.toNat) (t.getD 0 0) then
        if isCont (t.getD 1 0) then .adv 3 else .err 2
      else .err 1
    else if b0.toNat < 0xF5 then
      if inRange (secondLo b0.toNat) (secondHi b0.toNat) (t.getD 0 0) then
        if isCont (t.getD 1 0) then if isCont (t.getD 2 0) then .adv 4 else .err 3 else .err 2
      else .err 1
    else .err 1 := by
  by_cases c1 : b0.toNat < 0x80
  · simp only [sufStep, if_pos c1]
  have c1' : ¬ b0.toNat < 128 := c1
  rw [if_neg c1]
  by_cases c2 : b0.toNat < 0xC2
  · simp [sufStep, c1', c2, width_ne_two b0 (by omega) (Or.inl c2), bad3_of_lead b0 _ (Or.inl (by omega)),
      bad4_of_lead b0 _ (Or.inl (by omega))]
  rw [if_neg c2]
  by_cases c3 : b0.toNat < 0xE0
  · simp [sufStep, c1', c3, width_two b0 (by omega) c3, notContTag_eq, ite_eq_false]
  rw [if_neg c3]
  by_cases c4 : b0.toNat < 0xF0
  · simp [sufStep, c1', c4, width_three b0 (by omega) c4, notContTag_eq, bad3_eq b0 _ (by omega) c4, ite_eq_false]
  rw [if_neg c4]
  by_cases c5 : b0.toNat < 0xF5
  · simp [sufStep, c1', c5, width_four b0 (by omega) c5, notContTag_eq, bad4_eq b0 _ (by omega) c5, ite_eq_false]
  · simp [sufStep, c1', c5, width_ne_two b0 (by omega) (Or.inr (by omega)), bad3_of_lead b0 _ (Or.inr (by omega)),
      bad4_of_lead b0 _ (Or.inr (by omega))]

def SufR.at (i : Nat) : SufR → LStep
  | .adv n => .adv (i + n)
  | .err k => .err i (i + k)

theorem lossyStep_eq (src : Bytes) (i : Nat) (h : i < src.length) :
    lossyStep src i = (sufStep (src.drop i)).at i := by
  have hd : src.drop i = src.getD i 0 :: src.drop (i + 1) := by
    rw [List.getD_eq_getElem?_getD, List.getElem?_eq_getElem h, Option.getD_some]
    exact List.drop_eq_getElem_cons h
  have g0 := safeGet_drop src (i + 1) 0
  rw [hd]
  -- both sides are the same chain of tests once `SufR.at i` is pushed to the leaves
  simp only [lossyStep, sufStep, g0, safeGet_drop src (i + 1) 1, safeGet_drop src (i + 1) 2, apply_ite (SufR.at i)]
  simp only [SufR.at, Nat.add_assoc, Nat.reduceAdd]

end Bump.Str
