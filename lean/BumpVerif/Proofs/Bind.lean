import BumpVerif.Model.Arena
/-! `bindO` on each form of outcome. -/
namespace Bump

theorem bindO_ok {α β : Type} (s : St) (a : α) (f : St → α → St × Outcome β) : bindO (s, .ok a) f = f s a := rfl
theorem bindO_err {α β : Type} (s : St) (f : St → α → St × Outcome β) : bindO (s, .err) f = (s, .err) := rfl
theorem bindO_panic {α β : Type} (s : St) (f : St → α → St × Outcome β) : bindO (s, .panic) f = (s, .panic) := rfl
theorem bindO_bad {α β : Type} (s : St) (w : String) (f : St → α → St × Outcome β) :
    bindO (s, .bad w) f = (s, .bad w) := rfl
theorem bindO_envBad' {α β : Type} (s : St) (f : St → α → St × Outcome β) : bindO (s, .envBad) f = (s, .envBad) := rfl

theorem bindO_of_ok {α β : Type} {x : St × Outcome α} {a : α} (h : x.2 = .ok a) (f : St → α → St × Outcome β) :
    bindO x f = f x.1 a := by
  obtain ⟨s, o⟩ := x; cases h; rfl

theorem bindO_of_envBad {α β : Type} {x : St × Outcome α} (h : x.2 = .envBad) (f : St → α → St × Outcome β) :
    bindO x f = (x.1, .envBad) := by
  obtain ⟨s, o⟩ := x; cases h; rfl

end Bump
