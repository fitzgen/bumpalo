import BumpVerif.Proofs.Alloc
/-! Constructors, `reset`, `dealloc`. -/
namespace Bump
open Gen

theorem emptyArena_wf (E M : Nat) (lim : Option Nat) (hM : IsPow2 M) (hMle : M ≤ 16) : ArenaWF E ⟨M, [], lim⟩ :=
  ⟨hM, hMle, nofun, rfl, List.Pairwise.nil, nofun, Nat.zero_le _⟩

structure NewPost (E M cap : Nat) (f : Bool) (s s' : St) (o : Outcome Arena) : Prop where
  nobad : ∀ w, o ≠ .bad w
  mem_eq : s'.mem = s.mem
  ok : ∀ a, o = .ok a → ArenaWF E a ∧ a.M = M ∧ a.limit = none ∧
        ((a.chunks = [] ∧ s'.evs = s.evs ∧ cap = 0) ∨
         (∃ c refs, a.chunks = [c] ∧ AllRefused refs ∧ cap ≤ c.footer - c.data ∧ c.ptr = c.footer ∧
            s'.evs = s.evs ++ refs ++ [.malloc c.size c.align (some c.data)]))
  fail : o = .err ∨ o = .panic → ∃ refs, AllRefused refs ∧ s'.evs = s.evs ++ refs
  fallible : f = true → o ≠ .panic
  infallible : f = false → o ≠ .err

theorem newPost_fail {E M cap f} (s s' : St) (refs : List Ev) (hr : AllRefused refs) (he : s'.evs = s.evs ++ refs)
    (hm : s'.mem = s.mem) : NewPost E M cap f s s' (if f = true then Outcome.err else Outcome.panic) := by
  cases f
  · exact ⟨nofun, hm, nofun, fun _ => ⟨refs, hr, he⟩, nofun, nofun⟩
  · exact ⟨nofun, hm, nofun, fun _ => ⟨refs, hr, he⟩, nofun, nofun⟩

/-- both constructors check `MIN_ALIGN` first; a supported one passes -/
theorem ctor_asserts_pass {M : Nat} (hM : IsPow2 M) (hMle : M ≤ 16) : (!isPow2 M || decide (M > CHUNK_ALIGN)) = false := by
  rw [isPow2_iff.mpr hM, decide_eq_false (by rw [CA]; omega)]; rfl

theorem newArena_spec {E M cap} (f : Bool) (s : St) (hM : IsPow2 M) (hMle : M ≤ 16) :
    NewPost E M cap f s (newArena E M cap f s).1 (newArena E M cap f s).2 := by
  unfold newArena
  rw [ctor_asserts_pass hM hMle, if_neg Bool.false_ne_true]
  by_cases hc0 : cap = 0
  · rw [if_pos hc0]
    refine ⟨nofun, rfl, ?_, fun hh => hh.elim nofun nofun, nofun, nofun⟩
    intro a ha
    cases ha
    exact ⟨emptyArena_wf E M none hM hMle, rfl, rfl, Or.inl ⟨rfl, rfl, hc0⟩⟩
  · rw [if_neg hc0]
    by_cases hv : validLayout cap M = true
    · rw [hv, Bool.not_true, if_neg Bool.false_ne_true]
      rcases details_spec (M := M) (sz := cap) (al := M) none hM hMle hM (validLayout_bound hv) (by rw [Option.getD_none, DF]; decide)
        with he | ⟨d, hde, hd⟩
      · rw [he]
        exact newPost_fail s s [] AllRefused.nil (List.append_nil _).symm rfl
      · rw [hde]
        simp only
        have hd : DetailsOK M cap M DEFAULT_CHUNK_SIZE_WITHOUT_FOOTER d := hd
        have hpos : 0 < d.nswf := Nat.lt_of_lt_of_le (by decide) hd.ge_req
        have hcap := hd.req_le hM hM
        obtain ⟨s1, o1, hnc, sa, sm, sc⟩ := newChunk_spec (E := E) (held := []) (reqSz := cap) (prevAb := 0) s hM hMle hd
          hpos (Nat.le_trans hcap hd.nswf_le) (Nat.zero_le _)
        rw [hnc]
        rcases sc with ⟨rfl, refs, hev, hrf⟩ | rfl | ⟨c, rfl, hfc, hev⟩
        · exact newPost_fail s s1 refs hrf hev sm
        · exact ⟨nofun, sm, nofun, fun hh => hh.elim nofun nofun, nofun, nofun⟩
        · refine ⟨nofun, sm, ?_, fun hh => hh.elim nofun nofun, nofun, nofun⟩
          intro a ha
          cases ha
          have hwf := consChunk_wf (a := ⟨M, [], none⟩) (emptyArena_wf E M none hM hMle) hfc
          refine ⟨hwf, rfl, rfl, Or.inr ⟨c, [], rfl, AllRefused.nil, ?_, hfc.ptr_eq, by rw [List.append_nil]; exact hev⟩⟩
          rw [hfc.nswf_eq, Nat.add_sub_cancel_left]; exact hcap
    · rw [Bool.not_eq_true] at hv
      rw [hv, Bool.not_false, if_pos rfl]
      exact newPost_fail s s [] AllRefused.nil (List.append_nil _).symm rfl

theorem reset_spec {E} (s : St) (h : ArenaWF E s.a) :
    (reset s).2 = .ok () ∧ ArenaWF E (reset s).1.a ∧
    (reset s).1.mem = s.mem ∧ (reset s).1.a.M = s.a.M ∧ (reset s).1.a.limit = s.a.limit ∧
    ((s.a.chunks = [] ∧ (reset s).1 = s) ∨
     (∃ c rest, s.a.chunks = c :: rest ∧
        (reset s).1.a.chunks = [{ c with ptr := c.footer, ab := c.size - FOOTER_SIZE }] ∧
        (reset s).1.evs = s.evs ++ rest.map freeEv)) := by
  unfold reset
  cases hc : s.a.chunks with
  | nil => exact ⟨rfl, h, rfl, rfl, rfl, Or.inl ⟨rfl, rfl⟩⟩
  | cons c rest =>
    have hw := h.head hc
    have hfM : s.a.M ∣ c.footer := Nat.dvd_trans h.m_dvd16 (footer_al hw)
    simp only
    rw [if_neg (not_not_intro (Nat.mod_eq_zero_of_dvd hfM)), if_neg (Nat.not_lt.mpr hw.size_ge)]
    refine ⟨rfl, ?_, rfl, rfl, rfl, Or.inr ⟨c, rest, rfl, rfl, rfl⟩⟩
    exact ⟨h.mpow, h.mle,
      List.forall_mem_singleton.mpr ⟨hw.size_ge, hw.data_pos, hw.data_al, hw.usable_al, Nat.le_trans hw.ptr_ge hw.ptr_le,
        Nat.le_refl _, hfM, hw.hi⟩,
      rfl, List.pairwise_singleton .., List.forall_mem_singleton.mpr (h.sdisj c (hc ▸ List.mem_cons_self)),
      Nat.le_trans (Nat.le_add_left ..) hw.hi⟩

theorem dealloc_spec {E p sz} (s : St) (hE : EnvOK E) (h : ArenaWF E s.a)
    (hblk : (s.a.cur E).ptr = p → p + sz ≤ (s.a.cur E).footer) :
    (dealloc E p sz s).2 = .ok () ∧ ArenaWF E (dealloc E p sz s).1.a ∧
    (dealloc E p sz s).1.mem = s.mem ∧ (dealloc E p sz s).1.evs = s.evs ∧
    (dealloc E p sz s).1.a.M = s.a.M ∧ (dealloc E p sz s).1.a.limit = s.a.limit ∧
    ((dealloc E p sz s).1 = s ∨
     (∃ c cs r, s.a.chunks = c :: cs ∧ c.ptr = p ∧ roundUpTo (p + sz) s.a.M = some r ∧ r ≤ c.footer ∧
        (dealloc E p sz s).1.a.chunks = { c with ptr := r } :: cs)) := by
  unfold dealloc
  by_cases hl : isLast E s.a p = true
  · rw [if_pos hl]
    have hp : (s.a.cur E).ptr = p := eq_of_beq hl
    have hb := hblk hp
    obtain ⟨c1, _, _, _, c5, _, c7⟩ := cur_ok hE h
    have hlt : p + sz + (s.a.M - 1) < USIZE := by
      have : USIZE = 2 ^ 64 := rfl
      have := h.mle; have := FS
      unfold Chunk.footer at hb; omega
    obtain ⟨r, hr⟩ := roundUpTo_isSome hlt
    obtain ⟨r1, _, r3, _⟩ := roundUpTo_some h.m_pos hr
    -- the footer is a multiple of `MIN_ALIGN` at or above the block's end, so rounding up stays below it
    have hrle : r ≤ (s.a.cur E).footer := roundUpTo_le h.m_pos hr (Nat.dvd_trans h.m_dvd16 (cur_al hE h).2) hb
    obtain ⟨a', hs, hwf', hm, hl', sh⟩ := setCurPtr_wf h (q := r)
      (Nat.le_trans (hp ▸ c1) (Nat.le_trans (Nat.le_add_right ..) r1)) hrle r3
    rw [if_neg (Nat.not_le.mpr (Nat.lt_of_le_of_lt (Nat.le_add_right ..) hlt)), hr]
    simp only
    rw [if_neg (not_not_intro (Nat.mod_eq_zero_of_dvd r3)), storePtr, hs]
    refine ⟨rfl, hwf', rfl, rfl, hm, hl', ?_⟩
    rcases sh with ⟨_, rfl, _⟩ | ⟨c, cs, hc, hc'⟩
    · exact Or.inl rfl
    · rw [Arena.cur_cons E hc] at hp hrle
      exact Or.inr ⟨c, cs, r, hc, hp, rfl, hrle, hc'⟩
  · rw [if_neg hl]
    exact ⟨rfl, h, rfl, rfl, rfl, rfl, Or.inl rfl⟩

theorem dealloc_elim {E p sz : Nat} {s : St} {P : St → Prop} (h0 : P s) (h1 : ∀ r why, P (storePtr E s r why).1) :
    P (dealloc E p sz s).1 := by
  unfold dealloc
  by_cases hl : isLast E s.a p = true
  · rw [if_pos hl]
    by_cases hw : p + sz ≥ USIZE
    · rw [if_pos hw]; exact h0
    · rw [if_neg hw]
      cases roundUpTo (p + sz) s.a.M with
      | none => exact h0
      | some r =>
        dsimp only
        by_cases hr : r % s.a.M ≠ 0
        · rw [if_pos hr]; exact h0
        · rw [if_neg hr]; exact h1 _ _
  · rw [if_neg hl]; exact h0

theorem dealloc_nil {E p sz} (s : St) (h : s.a.chunks = []) : (dealloc E p sz s).1.a = s.a :=
  dealloc_elim (P := fun s' => s'.a = s.a) rfl fun r why => by
    show (storePtr E s r why).1.a = s.a
    rw [storePtr, setCurPtr_nil E r h]
    by_cases hr : r = E
    · rw [if_pos hr]
    · rw [if_neg hr]

theorem dealloc_last {E p sz r} {c : Chunk} {cs : List Chunk} (s : St) (hc : s.a.chunks = c :: cs) (hp : c.ptr = p)
    (hlt : p + sz < USIZE) (hr : roundUpTo (p + sz) s.a.M = some r) (hrm : r % s.a.M = 0) :
    dealloc E p sz s = ({ s with a := { s.a with chunks := { c with ptr := r } :: cs } }, .ok ()) := by
  have hl : isLast E s.a p = true := by rw [isLast, Arena.cur_cons E hc, hp]; exact beq_self_eq_true p
  rw [dealloc, if_pos hl, if_neg (Nat.not_le.mpr hlt), hr]
  simp only
  rw [if_neg (not_not_intro hrm), storePtr_cons r _ hc]

end Bump
