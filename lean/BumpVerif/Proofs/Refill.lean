import BumpVerif.Proofs.Step
/-! A block that was reserved and given straight back (`alloc_slice_try_fill_*` on the first
error) leaves no residue: the same layout is served again from the same place. -/
namespace Bump
open Gen

/-- `hdv` holds for every Rust array layout: there the alignment divides the size. -/
theorem allocFast_again (M : Nat) (c : Chunk) (sz al p : Nat) (hM : IsPow2 M) (hA : IsPow2 al)
    (hdp : c.data ≤ c.ptr) (hptr : c.ptr < 2 ^ 63) (hMp : M ∣ c.ptr) (hMle : M ≤ 16) (hdpos : 0 < c.data)
    (h : allocFast M c sz al = some p) (hdv : al ≤ M ∨ al ∣ sz) :
    ∃ r, roundUpTo (p + sz) M = some r ∧ p ≤ r ∧ r ≤ c.ptr ∧ M ∣ r ∧
      allocFast M { c with ptr := r } sz al = some p := by
  have hAM := hA.max hM
  have hMA : M ∣ max al M := hM.dvd_of_le hAM (Nat.le_max_right ..)
  have hapdv := roundDownTo_dvd c.ptr (max al M)
  have haple := roundDownTo_le c.ptr (max al M)
  rw [allocFast_eq c sz hdp hptr hMp] at h
  split at h
  · cases h
  · rename_i asz hasz
    obtain ⟨a1, a2, a3, _⟩ := roundUpTo_some hAM.pos hasz
    -- the rounded size exceeds the size by less than `MIN_ALIGN`
    have hlt : asz < sz + M := by
      by_cases hle : al ≤ M
      · rwa [Nat.max_eq_right hle] at a2
      · rw [Nat.max_eq_left (Nat.le_of_not_le hle)] at hasz
        exact Nat.lt_of_le_of_lt (roundUpTo_le hA.pos hasz (hdv.resolve_left hle) (Nat.le_refl _)) (Nat.lt_add_of_pos_right hM.pos)
    split at h
    · rename_i hfit
      cases h
      -- the release puts the finger at the rounded-down position, from which the same computation starts again
      have e2 : allocFast M { c with ptr := roundDownTo c.ptr (max al M) } sz al = some (roundDownTo c.ptr (max al M) - asz) := by
        rw [allocFast_eq _ sz (Nat.le_trans (Nat.le_add_right _ _) hfit) (Nat.lt_of_le_of_lt haple hptr)
          (Nat.dvd_trans hMA hapdv), hasz]
        show (if c.data + asz ≤ roundDownTo (roundDownTo c.ptr (max al M)) (max al M) then _ else _) = _
        rw [roundDownTo_of_dvd hapdv]
        exact if_pos hfit
      generalize roundDownTo c.ptr (max al M) = ap at *
      have hU : USIZE = 2 ^ 64 := rfl
      exact ⟨ap, roundUpTo_eq hM.pos (Nat.dvd_trans hMA hapdv) (by omega) (by omega) (by omega), Nat.sub_le _ _, haple,
        Nat.dvd_trans hMA hapdv, e2⟩
    · cases h

theorem dealloc_then_fast {E sz al p} {c : Chunk} {cs : List Chunk} (s1 : St) (hE : EnvOK E) (wf1 : ArenaWF E s1.a)
    (hc1 : s1.a.chunks = { c with ptr := p } :: cs) (hA : IsPow2 al) (hlay : sz + al ≤ 2 ^ 63)
    (hwc : ChunkWF s1.a.M c) (haf : allocFast s1.a.M c sz al = some p) (hdv : al ≤ s1.a.M ∨ al ∣ sz) :
    (dealloc E p sz s1).2 = .ok () ∧
    tryFast E (dealloc E p sz s1).1.a sz al = .ok (some (s1.a, p)) := by
  have hptr := hwc.ptr_lt
  obtain ⟨r, hr, hpr, hrle, hMr, hagain⟩ := allocFast_again s1.a.M c sz al p wf1.mpow hA hwc.ptr_ge hptr hwc.ptr_al wf1.mle
    hwc.data_pos haf hdv
  obtain ⟨b1, b2, _, _⟩ := allocFast_ok s1.a.M c sz al p wf1.mpow hA hwc.ptr_ge hptr hwc.ptr_al haf
  have hU : USIZE = 2 ^ 64 := rfl
  rw [dealloc_last (p := p) s1 hc1 rfl (by omega) hr (Nat.mod_eq_zero_of_dvd hMr)]
  refine ⟨rfl, ?_⟩
  have wf2 := setPtr_wf wf1 hc1 (p := r) (Nat.le_trans b1 hpr) (Nat.le_trans hrle hwc.ptr_le) hMr
  rcases tryFast_cases (sz := sz) (al := al) hE wf2 hA hlay with ⟨_, hn⟩ | ⟨a'', p', htf, hp', _, eff⟩
  · rw [Arena.cur_cons E rfl] at hn
    exact absurd (hagain.symm.trans hn) nofun
  · rw [Arena.cur_cons E rfl] at hp'
    cases hagain.symm.trans hp'
    rw [show tryFast E _ sz al = _ from htf]
    rcases eff.shape with ⟨hnil, _⟩ | ⟨c2, cs2, hc2, hc2', _⟩
    · cases hnil
    · cases hc2
      rw [Arena.eq_of (b := s1.a) eff.m_eq (hc2'.trans hc1.symm) eff.lim_eq]

/-- **No residue after a failed slice fill** (C11): `alloc_slice_try_fill_with/iter` whose closure
fails at index `i < n` returns the error, and a request of the same layout made next is served by
the fast path, at the same address, with no allocator traffic — whenever the element alignment
does not exceed `MIN_ALIGN` or divides the element size (true of every Rust type). -/
theorem sliceTryFill_no_residue {E esz eal n i p} (s : St) (hE : EnvOK E) (wf : ArenaWF E s.a) (hA : IsPow2 eal)
    (hlay : esz * n + eal ≤ 2 ^ 63) (harr : arrayLayout esz eal n = some (esz * n)) (hi : i < n)
    (hdv : eal ≤ s.a.M ∨ eal ∣ esz * n) (hok : (allocLayout E (esz * n) eal s).2 = .ok p) :
    (sliceTryFill E esz eal n (some i) s).2 = .ierr [] ∧
    tryFast E (sliceTryFill E esz eal n (some i) s).1.a (esz * n) eal = .ok (some ((allocLayout E (esz * n) eal s).1.a, p)) := by
  have sp := allocLayout_spec (sz := esz * n) (al := eal) s hE wf hA hlay
  rw [hok] at sp
  rw [sliceTryFill_of_err s harr hi hok (alloc_dealloc_live hE (init_live s wf) hA sp rfl).1]
  refine ⟨rfl, ?_⟩
  rcases alloc_served wf sp with ⟨hn, ha⟩ | ⟨c, cs, hc', hwc, haf, _⟩
  · -- chunk-less arena, zero-sized fill: nothing moves
    show tryFast E (dealloc E p (esz * n) (allocLayout E (esz * n) eal s).1).1.a (esz * n) eal = _
    rw [dealloc_nil _ (by rw [ha]; exact hn), ha]
    rcases sp.via p rfl with htf | ⟨C, _, _, hc', _⟩
    · rw [ha] at htf; exact htf
    · rw [ha, hn] at hc'; cases hc'
  · have hM := sp.m_eq
    exact (dealloc_then_fast _ hE (sp.ok p rfl).1 hc' hA hlay (hM ▸ hwc) (by rw [hM]; exact haf) (by rw [hM]; exact hdv)).2

end Bump
