import BumpVerif.Model.Sys
import BumpVerif.Proofs.Ops
import BumpVerif.Proofs.Init
/-! The live-block invariant and what each primitive of the arena does to it. -/
namespace Bump
open Gen

def BlockInv (a : Arena) (b : Block) : Prop :=
  a.M ∣ b.ptr ∧ 0 < b.ptr ∧ b.ptr + b.size < 2 ^ 63 ∧ (b.size = 0 ∨ InChunk a b.ptr b.size)

def NoOverlap (b c : Block) : Prop := b.size = 0 ∨ c.size = 0 ∨ Disj b.ptr b.size c.ptr c.size

theorem NoOverlap.symm {b c} (h : NoOverlap b c) : NoOverlap c b := by
  unfold NoOverlap Disj at *; omega

theorem NoOverlap.disj {b c} (h : NoOverlap b c) (hb : 0 < b.size) (hc : 0 < c.size) : Disj b.ptr b.size c.ptr c.size := by
  exact (h.resolve_left (by omega)).resolve_left (by omega)

structure LiveInv (E : Nat) (y : Sys) : Prop where
  wf : ArenaWF E y.st.a
  blocks : ∀ b ∈ y.live, BlockInv y.st.a b
  disj : y.live.Pairwise NoOverlap

theorem noOverlap_mid {pre post : List Block} {b0 b : Block} (h : (pre ++ b0 :: post).Pairwise NoOverlap)
    (hb : b ∈ pre ++ post) : NoOverlap b b0 := by
  obtain ⟨_, h2, h3⟩ := List.pairwise_append.mp h
  rcases List.mem_append.mp hb with hb | hb
  · exact h3 b hb b0 List.mem_cons_self
  · exact ((List.pairwise_cons.mp h2).1 b hb).symm

theorem mid_sublist {α} (pre post : List α) (x : α) : (pre ++ post).Sublist (pre ++ x :: post) :=
  List.Sublist.append (List.Sublist.refl _) (List.sublist_cons_self _ _)

theorem LiveInv.transport {E} {s s' : St} {live live' : List Block} (inv : LiveInv E ⟨s, live⟩)
    (hs : live'.Sublist live) (wf' : ArenaWF E s'.a) (hm : s'.a.M = s.a.M)
    (hfr : ∀ b ∈ live', 0 < b.size → InChunk s.a b.ptr b.size → InChunk s'.a b.ptr b.size) :
    LiveInv E ⟨s', live'⟩ := by
  refine ⟨wf', fun b hb => ?_, inv.disj.sublist hs⟩
  obtain ⟨g1, g2, g3, g4⟩ := inv.blocks b (hs.subset hb)
  refine ⟨hm ▸ g1, g2, g3, ?_⟩
  rcases g4 with h0 | hi
  · exact Or.inl h0
  · exact (Nat.eq_zero_or_pos b.size).imp id fun hpos => hfr b hb hpos hi

theorem LiveInv.transport_push {E} {s s' : St} {live live' : List Block} {b0 : Block} (inv : LiveInv E ⟨s, live⟩)
    (hs : live'.Sublist live) (wf' : ArenaWF E s'.a) (hm : s'.a.M = s.a.M) (hb0 : BlockInv s'.a b0)
    (hfr : ∀ b ∈ live', 0 < b.size → InChunk s.a b.ptr b.size → InChunk s'.a b.ptr b.size ∧ NoOverlap b b0) :
    LiveInv E ⟨s', live' ++ [b0]⟩ := by
  have inv' := inv.transport hs wf' hm fun b hb hp hi => (hfr b hb hp hi).1
  refine ⟨wf', fun b hb => ?_, List.pairwise_append.mpr ⟨inv'.disj, List.pairwise_singleton _ _, fun b hb c hc => ?_⟩⟩
  · rcases List.mem_append.mp hb with hb | hb
    · exact inv'.blocks b hb
    · rw [List.mem_singleton.mp hb]; exact hb0
  · rw [List.mem_singleton.mp hc]
    rcases (inv.blocks b (hs.subset hb)).2.2.2 with h0 | hi
    · exact .inl h0
    · exact (Nat.eq_zero_or_pos b.size).elim .inl fun hp => (hfr b hb hp hi).2

/-- caller obligations (the `unsafe` parts of the API) and layout validity -/
def OpValid (y : Sys) : Op → Prop
  | .alloc sz al _ => IsPow2 al ∧ sz + al ≤ 2 ^ 63
  | .array _ eal _ _ => IsPow2 eal ∧ eal ≤ 2 ^ 63
  | .atw sz al ok inner _ => IsPow2 al ∧ sz + al ≤ 2 ^ 63 ∧
      (∀ i ∈ inner, match i with | .keep s a => IsPow2 a ∧ s + a ≤ 2 ^ 63 | .release s a => IsPow2 a ∧ s + a ≤ 2 ^ 63) ∧
      (ok = true ∨ inner = [])
  | .tfill _ eal _ _ => IsPow2 eal ∧ eal ≤ 2 ^ 63
  | .aalloc sz al => IsPow2 al ∧ sz + al ≤ 2 ^ 63
  | .afree p sz al => ⟨p, sz⟩ ∈ y.live ∧ IsPow2 al ∧ al ∣ p
  | .agrow p osz oal nsz nal _ => ⟨p, osz⟩ ∈ y.live ∧ IsPow2 oal ∧ oal ∣ p ∧ IsPow2 nal ∧ osz ≤ nsz ∧ nsz + nal ≤ 2 ^ 63
  | .ashrink p osz oal nsz nal => ⟨p, osz⟩ ∈ y.live ∧ IsPow2 oal ∧ oal ∣ p ∧ IsPow2 nal ∧ nsz ≤ osz ∧ nsz + nal ≤ 2 ^ 63
  | .reset => True
  | .limit _ => True


theorem alloc_live {E sz p} {s s' : St} {live : List Block} (hE : EnvOK E) (inv : LiveInv E ⟨s, live⟩)
    (hwf' : ArenaWF E s'.a) (hm : s'.a.M = s.a.M) (hal : s.a.M ∣ p) (hpos : 0 < p)
    (sh : AllocShape E s.a s'.a p sz) :
    LiveInv E ⟨s', live ++ [⟨p, sz⟩]⟩ := by
  obtain ⟨f1, f2⟩ := sh.frame inv.wf hwf'
  exact inv.transport_push (.refl _) hwf' hm ⟨hm ▸ hal, hpos, sh.hi hE inv.wf hwf', (Nat.eq_zero_or_pos sz).imp id f2⟩
    fun b _ _ hi => ⟨(f1 _ _ hi).1, .inr (.inr (Or.symm (f1 _ _ hi).2))⟩

theorem blockOK_of_inv {a : Arena} {p sz al : Nat} (h : BlockInv a ⟨p, sz⟩) (hA : IsPow2 al) (hd : al ∣ p) :
    BlockOK a p sz al := ⟨hA, hd, h.1, h.2.1, h.2.2.1, h.2.2.2⟩

theorem dealloc_frame {E p sz oal} (s : St) (hE : EnvOK E) (h : ArenaWF E s.a) (hb : BlockOK s.a p sz oal) :
    (dealloc E p sz s).2 = .ok () ∧ ArenaWF E (dealloc E p sz s).1.a ∧ (dealloc E p sz s).1.a.M = s.a.M ∧
    (dealloc E p sz s).1.mem = s.mem ∧
    ∀ b bn, 0 < bn → InChunk s.a b bn → s.a.M ∣ b → (sz = 0 ∨ Disj b bn p sz) → InChunk (dealloc E p sz s).1.a b bn := by
  obtain ⟨h1, h2, h3, _, h5, _, h7⟩ := dealloc_spec (p := p) (sz := sz) s hE h (cur_block hE h hb)
  refine ⟨h1, h2, h5, h3, ?_⟩
  intro b bn hbn ⟨x, hx, hx1, hx2⟩ hMb hd
  rcases h7 with he | ⟨c, cs, r, hc, hcp, hr, hrle, hc'⟩
  · rw [he]; exact ⟨x, hx, hx1, hx2⟩
  · rw [hc] at hx
    rcases List.mem_cons.mp hx with rfl | hx
    · have hge : p + sz ≤ b := by unfold Disj at hd; omega
      exact ⟨{ x with ptr := r }, by rw [hc']; exact List.mem_cons_self, roundUpTo_le h.m_pos hr hMb hge, hx2⟩
    · exact ⟨x, by rw [hc']; exact List.mem_cons_of_mem _ hx, hx1, hx2⟩

theorem dealloc_live_mid {E p sz al} {s : St} {pre post : List Block} (hE : EnvOK E)
    (inv : LiveInv E ⟨s, pre ++ ⟨p, sz⟩ :: post⟩) (hA : IsPow2 al) (hd : al ∣ p) :
    (dealloc E p sz s).2 = .ok () ∧ LiveInv E ⟨(dealloc E p sz s).1, pre ++ post⟩ := by
  have hb := blockOK_of_inv (inv.blocks _ (List.mem_append_right _ List.mem_cons_self)) hA hd
  obtain ⟨h1, h2, h3, _, h4⟩ := dealloc_frame s hE inv.wf hb
  refine ⟨h1, inv.transport (mid_sublist _ _ _) h2 h3 fun b hb hpos hi => ?_⟩
  exact h4 _ _ hpos hi (inv.blocks b ((mid_sublist _ _ _).subset hb)).1
    ((noOverlap_mid inv.disj hb).resolve_left (by omega))

theorem dealloc_live {E p sz al} {s : St} {live : List Block} (hE : EnvOK E) (inv : LiveInv E ⟨s, live⟩)
    (hmem : ⟨p, sz⟩ ∈ live) (hA : IsPow2 al) (hd : al ∣ p) :
    (dealloc E p sz s).2 = .ok () ∧ LiveInv E ⟨(dealloc E p sz s).1, live.erase ⟨p, sz⟩⟩ := by
  obtain ⟨l1, l2, _, rfl, he⟩ := List.exists_erase_eq hmem
  rw [he]; exact dealloc_live_mid hE inv hA hd

theorem realloc_live {E p osz nsz nal q} {s s' : St} {live : List Block} (inv : LiveInv E ⟨s, live⟩)
    (hmem : ⟨p, osz⟩ ∈ live) (post : ReallocPost E s s' p osz nsz nal (.ok q)) :
    LiveInv E ⟨s', live.erase ⟨p, osz⟩ ++ [⟨q, nsz⟩]⟩ := by
  obtain ⟨l1, l2, _, rfl, he⟩ := List.exists_erase_eq hmem
  rw [he]
  obtain ⟨hwf', _, hMq, hpos, hplace, hframe, _⟩ := post.ok q rfl
  exact inv.transport_push (mid_sublist _ _ _) hwf' post.m_eq ⟨post.m_eq ▸ hMq, hpos, post.hi q rfl, hplace⟩
    fun b hb hp hi => (hframe _ _ hp hi ((noOverlap_mid inv.disj hb).resolve_left (by omega))).imp id .inr

theorem live_same_arena {E} {s s' : St} {live : List Block} (inv : LiveInv E ⟨s, live⟩) (ha : s'.a = s.a) :
    LiveInv E ⟨s', live⟩ :=
  inv.transport (List.Sublist.refl _) (ha ▸ inv.wf) (by rw [ha]) fun _ _ _ hi => ha ▸ hi

theorem allocPost_live {E sz al p} {s s' : St} {live : List Block} {o : Outcome Nat} (hE : EnvOK E)
    (inv : LiveInv E ⟨s, live⟩) (sp : AllocPost E s s' sz al o) (ho : o = .ok p) :
    LiveInv E ⟨s', live ++ [⟨p, sz⟩]⟩ := by
  obtain ⟨hwf', _, hm, hpos, hsh, _⟩ := sp.ok p ho
  exact alloc_live hE inv hwf' sp.m_eq hm hpos hsh

theorem allocPost_fail_live {E sz al} {s s' : St} {live : List Block} {o : Outcome Nat}
    (inv : LiveInv E ⟨s, live⟩) (sp : AllocPost E s s' sz al o) (ho : o = .err ∨ o = .panic) :
    LiveInv E ⟨s', live⟩ := live_same_arena inv (sp.fail ho).1

theorem alloc_dealloc_live {E sz al p} {s s' : St} {live : List Block} {o : Outcome Nat} (hE : EnvOK E)
    (inv : LiveInv E ⟨s, live⟩) (hA : IsPow2 al) (sp : AllocPost E s s' sz al o) (ho : o = .ok p) :
    (dealloc E p sz s').2 = .ok () ∧ LiveInv E ⟨(dealloc E p sz s').1, live⟩ := by
  have h := dealloc_live_mid hE (post := []) (allocPost_live hE inv sp ho) hA (sp.ok p ho).2.1
  rwa [List.append_nil] at h

def Persist (a a' : Arena) : Prop :=
  a'.M = a.M ∧ ∀ c ∈ a.chunks, ∃ c' ∈ a'.chunks, c'.data = c.data ∧ c'.size = c.size

theorem Persist.refl (a : Arena) : Persist a a := ⟨rfl, fun c hc => ⟨c, hc, rfl, rfl⟩⟩
theorem Persist.trans {a b c : Arena} (h1 : Persist a b) (h2 : Persist b c) : Persist a c := by
  refine ⟨by rw [h2.1, h1.1], ?_⟩
  intro x hx
  obtain ⟨y, hy, e1, e2⟩ := h1.2 x hx
  obtain ⟨z, hz, f1, f2⟩ := h2.2 y hy
  exact ⟨z, hz, by rw [f1, e1], by rw [f2, e2]⟩
theorem Persist.of_eq {a b : Arena} (h : b = a) : Persist a b := by subst h; exact Persist.refl _

theorem Persist.of_head {a a' : Arena} {c : Chunk} {cs : List Chunk} {p : Nat} (hm : a'.M = a.M) (hc : a.chunks = c :: cs)
    (hc' : a'.chunks = { c with ptr := p } :: cs) : Persist a a' := by
  refine ⟨hm, fun x hx => ?_⟩
  rw [hc] at hx
  rcases List.mem_cons.mp hx with rfl | hx
  · exact ⟨{ x with ptr := p }, by rw [hc']; exact List.mem_cons_self, rfl, rfl⟩
  · exact ⟨x, by rw [hc']; exact List.mem_cons_of_mem _ hx, rfl, rfl⟩

theorem AllocShape.persist {E a a' p sz} (hm : a'.M = a.M) (sh : AllocShape E a a' p sz) : Persist a a' := by
  rcases sh with ⟨_, ha, _, _⟩ | ⟨c, cs, hc, hc', _, _⟩ | ⟨c, hc', _⟩
  · exact .of_eq ha
  · exact .of_head hm hc hc'
  · exact ⟨hm, fun x hx => ⟨x, by rw [hc']; exact List.mem_cons_of_mem _ hx, rfl, rfl⟩⟩

def InnerValid : Inner → Prop
  | .keep s a => IsPow2 a ∧ s + a ≤ 2 ^ 63
  | .release s a => IsPow2 a ∧ s + a ≤ 2 ^ 63

/-- caller obligations, with no restriction on what a failing initialiser did in the arena -/
def OpValidFull (y : Sys) : Op → Prop
  | .atw sz al _ inner _ => IsPow2 al ∧ sz + al ≤ 2 ^ 63 ∧ (∀ i ∈ inner, InnerValid i)
  | op => OpValid y op

theorem OpValid.full {y : Sys} {op : Op} (h : OpValid y op) : OpValidFull y op := by
  cases op with
  | atw sz al ok inner f => exact ⟨h.1, h.2.1, fun i hi => by have := h.2.2.1 i hi; cases i <;> exact this⟩
  | _ => exact h

/-- a history is admissible from `y`: every operation meets its caller obligations in the state
it is applied to, and the allocator keeps its contract -/
def RunOK (E : Nat) : List Op → Sys → Prop
  | [], _ => True
  | op :: ops, y => OpValid y op ∧ (sysStep E op y).2 ≠ .envBad ∧ RunOK E ops (sysStep E op y).1

theorem init_live {E} (s : St) (h : ArenaWF E s.a) : LiveInv E ⟨s, []⟩ :=
  ⟨h, nofun, List.Pairwise.nil⟩

end Bump
