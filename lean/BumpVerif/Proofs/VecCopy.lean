import BumpVerif.Proofs.VecMore
/-!
# `extend_from_slice_copy` / `extend_from_slices_copy` / `io::Write` (`T: Copy`), `shrink_to_fit`, `into_boxed_slice`
-/
namespace Bump.V
open Bump

theorem extendFromSliceCopy_unfold (c : Cfg) (v : VS) (src : List Elem) (w : W) :
    extendFromSliceCopy c v src w =
      match rawReserve c v v.len src.length with
      | none => (v, w, none)
      | some v1 =>
        ({ (v1.copyFrom c (src.map some) v1.len w).1 with len := (v1.copyFrom c (src.map some) v1.len w).1.len + src.length },
          (v1.copyFrom c (src.map some) v1.len w).2, some ()) := rfl

/-- `extend_from_slice_copy(other)`: one reservation, one `copy_nonoverlapping` -/
theorem extendFromSliceCopy_spec {c : Cfg} (hc : CfgOK c) {v : VS} {xs : List Elem} (h : RepB c v xs) (src : List Elem) (w : W) :
    (∃ v', extendFromSliceCopy c v src w = (v', w, some ()) ∧ RepB c v' (xs ++ src)) ∨
    (extendFromSliceCopy c v src w = (v, w, none) ∧ rawReserve c v v.len src.length = none) := by
  rw [extendFromSliceCopy_unfold]
  cases hr : rawReserve c v v.len src.length with
  | none => right; exact ⟨rfl, rfl⟩
  | some v1 =>
    left
    obtain ⟨h1, hge, _⟩ := rawReserve_some hc h hr
    obtain ⟨v2, hcp, hrep, _⟩ := h1.copyFrom_len src (by rw [← h.len]; exact hge) w
    simp only [hcp]
    exact ⟨_, rfl, hrep⟩

/-- the unchecked copies of `extend_from_slices_copy` inside the room of its single reservation: no debug
assertion fires -/
theorem copySlices_spec (c : Cfg) :
    ∀ (srcs : List (List Elem)) (v : VS) (ys : List Elem) (w : W), RepB c v ys →
      ys.length + (srcs.map List.length).sum ≤ capOf c v →
      ∃ v', copySlices c srcs v w = (v', w) ∧ RepB c v' (ys ++ srcs.flatten) := by
  intro srcs
  induction srcs with
  | nil => intro v ys w hr _; exact ⟨v, rfl, by simpa using hr⟩
  | cons s ss ih =>
    intro v ys w hr hcap
    simp only [List.map_cons, List.sum_cons] at hcap
    obtain ⟨v1, hcf, hr1, hc1⟩ := hr.copyFrom_len s (by omega) w
    have hdbg : (c.dbg && decide (v.len + s.length > capOf c v)) = false := by
      have : ¬ v.len + s.length > capOf c v := by rw [hr.len]; omega
      simp [this]
    obtain ⟨v', hrun, hrep⟩ := ih { v1 with len := v1.len + s.length } (ys ++ s) w hr1 (by
      rw [capOf_congr c (v' := { v1 with len := v1.len + s.length }) hc1, List.length_append]; omega)
    exact ⟨v', by simp only [copySlices, hdbg, Bool.false_eq_true, ↓reduceIte, hcf]; exact hrun,
      by simpa [List.append_assoc] using hrep⟩

/-- `extend_from_slices_copy(slices)`: reserve the total once, then copy slice by slice -/
theorem extendFromSlicesCopy_spec {c : Cfg} (hc : CfgOK c) {v : VS} {xs : List Elem} (h : RepB c v xs) (srcs : List (List Elem)) (w : W) :
    (∃ v', extendFromSlicesCopy c v srcs w = (v', w, some ()) ∧ RepB c v' (xs ++ srcs.flatten)) ∨
    (extendFromSlicesCopy c v srcs w = (v, w, none) ∧ rawReserve c v v.len (srcs.map List.length).sum = none) := by
  unfold extendFromSlicesCopy
  cases hr : rawReserve c v v.len (srcs.map List.length).sum with
  | none => right; exact ⟨rfl, rfl⟩
  | some v1 =>
    left
    obtain ⟨h1, hge, _⟩ := rawReserve_some hc h hr
    obtain ⟨v', hrun, hrep⟩ := copySlices_spec c srcs v1 xs w h1 (by rw [← h.len]; exact hge)
    simp only [hrun]
    exact ⟨v', rfl, hrep⟩

/-- `write(buf)` / `write_all(buf)` -/
theorem ioWrite_spec {c : Cfg} (hc : CfgOK c) {v : VS} {xs : List Elem} (h : RepB c v xs) (buf : List Elem) (w : W) :
    (∃ v', ioWrite c v buf w = (v', w, some buf.length) ∧ RepB c v' (xs ++ buf)) ∨
    (ioWrite c v buf w = (v, w, none) ∧ rawReserve c v v.len buf.length = none) := by
  unfold ioWrite
  rcases extendFromSliceCopy_spec hc h buf w with ⟨v', hrun, hrep⟩ | ⟨hrun, hres⟩
  · left; rw [hrun]; exact ⟨v', rfl, hrep⟩
  · right; rw [hrun]; exact ⟨rfl, hres⟩

theorem shrinkToFit_spec {c : Cfg} {v : VS} {xs : List Elem} (h : RepB c v xs) :
    (∃ v', shrinkToFit c v = some v' ∧ RepB c v' xs ∧ (c.esz ≠ 0 → capOf c v' = xs.length)) ∨
    (shrinkToFit c v = none ∧ c.allocOk = false ∧ c.esz ≠ 0 ∧ xs.length ≠ 0 ∧ xs.length < v.cap) := by
  have hlen := h.len
  have hlc := h.lenCap
  unfold shrinkToFit
  by_cases h1 : capOf c v = v.len
  · left; rw [if_pos h1]; exact ⟨v, rfl, h, fun _ => by rw [h1, hlen]⟩
  · rw [if_neg h1]
    by_cases he : c.esz = 0
    · left; rw [if_pos he]
      refine ⟨_, rfl, ⟨⟨h.slots, hlen, fun h0 => absurd he h0, by simp [capOf, he]; have := h.lenCap; simp [capOf, he] at this; exact this⟩,
        ?_, fun h0 => absurd he h0⟩, fun h0 => absurd he h0⟩
      have := capOf_lt c v h.capLt; simp only at this ⊢; omega
    · rw [if_neg he]
      have hcap : capOf c v = v.cap := by simp [capOf, he]
      rw [hcap] at h1 hlc
      have h2 : ¬ v.cap < v.len := by omega
      rw [if_neg h2]
      rcases v with ⟨sl, l, cp⟩
      obtain ⟨rest, rfl, rfl⟩ := h.toRep.nf
      simp only at h1 hlc h2 ⊢
      by_cases h0 : xs.length = 0
      · left; rw [if_pos h0]
        have hx : xs = [] := List.eq_nil_of_length_eq_zero h0
        subst hx
        exact ⟨_, rfl, ⟨⟨⟨[], rfl⟩, rfl, fun _ => rfl, by simp⟩, by simp [USIZE], fun _ => by simp [USIZE]⟩, fun _ => by simp [capOf, he]⟩
      · rw [if_neg h0]
        by_cases hal : c.allocOk = true
        · left
          simp only [hal, Bool.not_true, Bool.false_eq_true, ↓reduceIte]
          refine ⟨_, rfl, ?_, fun _ => by simp [capOf, he]⟩
          have hrs : resizeSlots (xs.map some ++ rest) xs.length = xs.map some ++ [] := by
            simp [resizeSlots]
          rw [hrs]
          have := h.capHalf he
          have hU : USIZE = 2 ^ 64 := rfl
          simp only at this
          apply RepB.of_nf (fun _ => by simp) (by omega) (fun _ => by omega)
          intro h0'; exact absurd h0' he
        · right
          have hal' : c.allocOk = false := by simpa using hal
          simp only [hal', Bool.not_false, ↓reduceIte]
          exact ⟨trivial, trivial, he, h0, by omega⟩

/-- `into_boxed_slice()`, then the `Box<[T]>` is dropped -/
theorem intoBoxed_spec {c : Cfg} {v : VS} {xs : List Elem} (h : RepB c v xs) (w : W) :
    (intoBoxedThenDrop c v w).1 = xs ∧ (intoBoxedThenDrop c v w).2.1.evs = w.evs ++ dropEvs c xs ∧
      (intoBoxedThenDrop c v w).2.1.bad = w.bad ∧ (c.dropPanicAt = none → (intoBoxedThenDrop c v w).2.2 = false) := by
  unfold intoBoxedThenDrop
  rw [show v.owned = xs from h.toRep.abs_eq]
  exact ⟨rfl, dropAll_evs c xs w, dropAll_bad c xs w, dropAll_noPanic c xs w⟩

end Bump.V
