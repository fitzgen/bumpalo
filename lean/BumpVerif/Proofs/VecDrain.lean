import BumpVerif.Proofs.VecOwn
/-!
# `drain` / `into_iter` (vec.rs:1536-1590, 2112-2130, 2430-2570)

The steps of the iterators are stated on a buffer whose slots are given in pieces (`A ++ F.map some ++ R`:
the block `F` the step works on, what is before it, what is after it); the statements about a represented
vector `xs.map some ++ rest` put `xs.take`/`xs.drop` expressions in for the pieces.
-/
namespace Bump.V
open Bump

theorem min_succ_step {n k m : Nat} (h : n + 1 = min (k + 1) m) : 0 < m ∧ n = min k (m - 1) := by
  cases m with
  | zero => cases h.trans (Nat.min_zero _)
  | succ m => exact ⟨Nat.succ_pos m, Nat.succ.inj (h.trans (Nat.succ_min_succ k m))⟩

/-- `k` calls of `next()` on the slice iterator of a `Drain` / `IntoIter` -/
theorem takeFront_run (v : VS) (R : List (Option Elem)) :
    ∀ (F : List Elem) (A : List (Option Elem)) (k : Nat) (d : Drain) (w : W), v.slots = A ++ (F.map some ++ R) →
      d.lo = A.length → F.length = min k (d.hi - d.lo) →
      Drain.takeFront v k d w = ({ d with lo := d.lo + F.length }, { w with evs := w.evs ++ movedEvs F }, F) := by
  intro F
  induction F with
  | nil =>
    intro A k d w _ _ hF
    cases k with
    | zero => simp [Drain.takeFront, movedEvs]
    | succ k =>
      have : ¬ d.lo < d.hi := by simp at hF; omega
      simp [Drain.takeFront, this, movedEvs]
  | cons e F ih =>
    intro A k d w hs hlo hF
    cases k with
    | zero => simp at hF
    | succ k =>
      obtain ⟨hpos, hF'⟩ := min_succ_step hF
      have hlt : d.lo < d.hi := Nat.lt_of_sub_pos hpos
      have hr : v.read d.lo = some e := by simp [VS.read, hs, hlo]
      have := ih (A ++ [some e]) k { d with lo := d.lo + 1 } (w.moved e) (by simp [hs]) (by simp [hlo]) (by rw [hF', Nat.sub_sub])
      simp only [Drain.takeFront, hlt, ↓reduceIte, hr, this, W.moved_append_movedEvs, List.length_cons, Nat.add_assoc, Nat.add_comm 1]

/-- `k` calls of `next_back()`: the block that ends at `hi` is handed out, last element first -/
theorem takeBack_run (v : VS) (A : List (Option Elem)) :
    ∀ (B : List Elem) (R : List (Option Elem)) (k : Nat) (d : Drain) (w : W), v.slots = A ++ (B.reverse.map some ++ R) →
      d.hi = A.length + B.length → B.length = min k (d.hi - d.lo) →
      Drain.takeBack v k d w = ({ d with hi := d.hi - B.length }, { w with evs := w.evs ++ movedEvs B }, B) := by
  intro B
  induction B with
  | nil =>
    intro R k d w _ _ hB
    cases k with
    | zero => simp [Drain.takeBack, movedEvs]
    | succ k =>
      have : ¬ d.lo < d.hi := by simp at hB; omega
      simp [Drain.takeBack, this, movedEvs]
  | cons e B ih =>
    intro R k d w hs hhi hB
    cases k with
    | zero => simp at hB
    | succ k =>
      obtain ⟨hpos, hB'⟩ := min_succ_step hB
      have hlt : d.lo < d.hi := Nat.lt_of_sub_pos hpos
      have hs' : v.slots = A ++ (B.reverse.map some ++ some e :: R) := by simp [hs]
      have hhi' : d.hi - 1 = A.length + B.length := by rw [hhi]; rfl
      have hr : v.read (d.hi - 1) = some e := by
        rw [VS.read, hs', ← List.append_assoc, hhi']; simp
      have := ih (some e :: R) k { d with hi := d.hi - 1 } (w.moved e) hs' hhi' (by rw [hB', Nat.sub_right_comm])
      simp only [Drain.takeBack, hlt, ↓reduceIte, hr, this, W.moved_append_movedEvs, List.length_cons, Nat.sub_sub, Nat.add_comm 1]

/-- `for_each(drop)` over an owning iterator -/
theorem dropEach_spec (c : Cfg) : ∀ (es : List Elem) (w : W),
    ∃ (k : Nat) (w' : W) (r : Option (List Elem)), dropEach c es w = (w', r) ∧ k ≤ es.length ∧
      w'.evs = w.evs ++ dropEvs c (es.take k) ∧ w'.bad = w.bad ∧ w'.nextId = w.nextId ∧
      (r = none → k = es.length) ∧ (∀ left, r = some left → left = es.drop k) ∧ (c.dropPanicAt = none → r = none) := by
  intro es
  induction es with
  | nil => intro w; exact ⟨0, w, none, rfl, Nat.le_refl _, by simp [dropEvs], rfl, rfl, fun _ => rfl, by simp, fun _ => rfl⟩
  | cons e es ih =>
    intro w
    have hb0 := dropElem_bad c w e
    have hn0 := dropElem_nextId c w e
    cases hp : (dropElem c w e).2 with
    | true =>
      refine ⟨1, (dropElem c w e).1, some es, by simp [dropEach, hp], by simp, by rw [dropElem_evs]; simp, hb0, hn0, by simp, by simp, ?_⟩
      intro hn; rw [dropElem_noPanic c w e hn] at hp; cases hp
    | false =>
      obtain ⟨k, w', r, hrun, hk, hev, hb, hn, hr1, hr2, hr3⟩ := ih (dropElem c w e).1
      refine ⟨k + 1, w', r, by simp [dropEach, hp, hrun], by simp; omega, ?_, by rw [hb, hb0], by rw [hn, hn0],
        fun h => by simp [hr1 h], fun left h => by simpa using hr2 left h, hr3⟩
      rw [hev, dropElem_evs, List.append_assoc, ← dropEvs_append]; rfl

theorem all_some {α} (ys : List α) : (ys.map some).all Option.isSome = true := by
  induction ys with
  | nil => rfl
  | cons y ys ih => simp [ih]

theorem readRange_run (v : VS) (P R : List (Option Elem)) (M : List Elem) (lo hi : Nat) (w : W)
    (hs : v.slots = P ++ (M.map some ++ R)) (hlo : lo = P.length) (hhi : hi = lo + M.length) :
    readRange v lo hi w = (M, w) := by
  subst hlo hhi
  have h1 : (v.slots.drop P.length).take M.length = M.map some := by
    rw [hs, List.drop_left, ← List.length_map (f := some), List.take_left]
  simp only [readRange, h1, filterMap_map_some, all_some, List.length_map, Nat.add_sub_cancel_left]
  simp

/-- `Drain::drop` moves the tail `U` back over the drained range `H`, right behind the prefix `K` -/
theorem moveBack_run (c : Cfg) (v : VS) (K H U R : List (Option Elem)) (d : Drain) (w : W)
    (hs : v.slots = K ++ (H ++ (U ++ R))) (hl : v.len = K.length) (hts : d.tailStart = K.length + H.length)
    (htl : d.tailLen = U.length) :
    ∃ J, J.length = H.length ∧ d.moveBack c v w = (⟨K ++ (U ++ (J ++ R)), K.length + U.length, v.cap⟩, w) := by
  rcases v with ⟨sl, l, cp⟩
  simp only at hs hl; subst hs hl
  simp only [Drain.moveBack, hts, htl]
  by_cases hU : U.length > 0
  · rw [if_pos hU]
    by_cases hH : K.length + H.length ≠ K.length
    · obtain ⟨J, hJ, hcp⟩ := copy_block_down K H U R
      rw [if_pos hH, copy_ok _ _ _ _ _ _ (by simp; omega)]
      exact ⟨J, hJ, by simp only [hcp]⟩
    · have : H = [] := List.length_eq_zero_iff.mp (by omega)
      subst this
      rw [if_neg hH]; exact ⟨[], rfl, by simp⟩
  · have : U = [] := List.length_eq_zero_iff.mp (by omega)
    subst this
    rw [if_neg hU]; exact ⟨H, rfl, by simp⟩

theorem readRange_rep (xs : List Elem) (rest : List (Option Elem)) (l cp lo hi : Nat) (w : W) (hhi : hi ≤ xs.length) (hlo : lo ≤ hi) :
    readRange ⟨xs.map some ++ rest, l, cp⟩ lo hi w = ((xs.drop lo).take (hi - lo), w) := by
  have hs : xs.map some ++ rest = (xs.take lo).map some ++ (((xs.drop lo).take (hi - lo)).map some ++ ((xs.drop hi).map some ++ rest)) := by
    conv => lhs; rw [split3 xs hlo]
    simp only [List.map_append, List.append_assoc]
  exact readRange_run ⟨xs.map some ++ rest, l, cp⟩ _ _ _ lo hi w hs (by simp; omega) (by simp; omega)

def DrainOK (c : Cfg) (len : Nat) (s e : Bd) (st en : Nat) : Prop :=
  rangeStart c s = some st ∧ rangeEnd c len e = some en ∧ st ≤ en ∧ en ≤ len

theorem drainNew_ok {c : Cfg} {v : VS} {s e : Bd} {st en : Nat} (h : DrainOK c v.len s e st en) :
    drainNew c v s e = some ({ v with len := st }, ⟨en, v.len - en, st, en⟩) := by
  obtain ⟨h1, h2, h3, h4⟩ := h
  simp [drainNew, h1, h2, h3, h4]

theorem drainNew_none {c : Cfg} {v : VS} {s e : Bd} (h : ¬ ∃ st en, DrainOK c v.len s e st en) :
    drainNew c v s e = none := by
  unfold drainNew
  split
  · rename_i st en h1 h2
    split
    · rename_i hc; exact absurd ⟨st, en, h1, h2, hc.1, hc.2⟩ h
    · rfl
  · rfl

theorem drainOp_panics {c : Cfg} {v : VS} {s e : Bd} (h : ¬ ∃ st en, DrainOK c v.len s e st en) (take back : Nat) (forget : Bool) (w : W) :
    drainOp c v s e take back forget w = (v, w, none) := by
  simp [drainOp, drainNew_none h]

theorem drainOp_unfold (c : Cfg) (v : VS) (s e : Bd) (take back : Nat) (forget : Bool) (w : W) (v1 : VS) (d : Drain)
    (h : drainNew c v s e = some (v1, d)) :
    drainOp c v s e take back forget w =
      let a := d.takeFront v1 take w
      let b := a.1.takeBack v1 back a.2.1
      if forget then (v1, b.2.1, some (a.2.2 ++ b.2.2))
      else ((b.1.drop c v1 b.2.1).1, (b.1.drop c v1 b.2.1).2.1, if (b.1.drop c v1 b.2.1).2.2 then none else some (a.2.2 ++ b.2.2)) := by
  simp only [drainOp, h]

theorem Drain.drop_unfold (c : Cfg) (v : VS) (d : Drain) (w : W) :
    d.drop c v w =
      let a := readRange v d.lo d.hi w
      let b := dropEach c a.1 a.2
      match b.2 with
      | some _ => (v, b.1, true)
      | none => ((d.moveBack c v b.1).1, (d.moveBack c v b.1).2, false) := by
  unfold Drain.drop
  generalize readRange v d.lo d.hi w = a
  rcases a with ⟨es, w1⟩
  simp only
  generalize dropEach c es w1 = b
  rcases b with ⟨w2, r⟩
  cases r <;> rfl

/-- the iterator part shared by `drain` and `into_iter` -/
theorem iter_run (v : VS) (A R : List (Option Elem)) (F M B : List Elem) (take back lo ts tl en : Nat) (w : W)
    (hs : v.slots = A ++ ((F ++ (M ++ B)).map some ++ R)) (hlo : lo = A.length) (hen : en = lo + (F.length + (M.length + B.length)))
    (hF : F.length = min take (F.length + (M.length + B.length))) (hB : B.length = min back (M.length + B.length)) :
    Drain.takeFront v take ⟨ts, tl, lo, en⟩ w = (⟨ts, tl, lo + F.length, en⟩, { w with evs := w.evs ++ movedEvs F }, F) ∧
    Drain.takeBack v back ⟨ts, tl, lo + F.length, en⟩ { w with evs := w.evs ++ movedEvs F } =
      (⟨ts, tl, lo + F.length, en - B.length⟩, { w with evs := w.evs ++ movedEvs (F ++ B.reverse) }, B.reverse) ∧
    ∀ w', readRange v (lo + F.length) (en - B.length) w' = (M, w') := by
  subst hlo
  refine ⟨?_, ?_, fun w' => ?_⟩
  · exact takeFront_run v ((M ++ B).map some ++ R) F A take ⟨ts, tl, A.length, en⟩ w (by simp [hs]) rfl
      (by simp only [hen, Nat.add_sub_cancel_left]; exact hF)
  · have := takeBack_run v (A ++ (F ++ M).map some) B.reverse R back ⟨ts, tl, A.length + F.length, en⟩
      { w with evs := w.evs ++ movedEvs F } (by simp [hs]) (by simp; omega)
      (by simp only [List.length_reverse]; rw [hB]; congr 1; omega)
    simpa [movedEvs_append] using this
  · exact readRange_run v (A ++ F.map some) (B.map some ++ R) M _ _ w' (by simp [hs]) (by simp) (by omega)

/-- the parts of a vector under a `drain(st..en)` used `k1` times from the front and `k2` times from the back:
before the range, taken from the front, left in the middle, taken from the back, the tail -/
theorem drain_split (xs : List Elem) (st en k1 k2 : Nat) (h : st + k1 + k2 ≤ en) :
    xs = xs.take st ++ ((xs.drop st).take k1 ++ ((xs.drop (st + k1)).take (en - k2 - (st + k1)) ++
      ((xs.take en).drop (en - k2) ++ xs.drop en))) := by
  have e2 : xs.drop st = (xs.drop st).take k1 ++ xs.drop (st + k1) := by
    simpa using drop_split xs (Nat.le_add_right st k1)
  have e3 := drop_split xs (show st + k1 ≤ en - k2 by omega)
  have e4 : xs.drop (en - k2) = (xs.take en).drop (en - k2) ++ xs.drop en := by
    rw [List.drop_take]; exact drop_split xs (Nat.sub_le _ _)
  exact (List.take_append_drop st xs).symm.trans (congrArg _ (e2.trans (congrArg _ (e3.trans (congrArg _ e4)))))

theorem drain_split_lengths (xs : List Elem) (st en k1 k2 : Nat) (h1 : k1 ≤ en - st) (h2 : k2 ≤ en - (st + k1)) (hse : st ≤ en)
    (hen : en ≤ xs.length) {A F M B : List Elem} (hA : A = xs.take st) (hF : F = (xs.drop st).take k1)
    (hM : M = (xs.drop (st + k1)).take (en - k2 - (st + k1))) (hB : B = (xs.take en).drop (en - k2)) :
    st + k1 + k2 ≤ en ∧ A.length = st ∧ F.length = k1 ∧ B.length = k2 ∧ M.length + B.length = en - (st + k1) ∧
      F.length + (M.length + B.length) = en - st := by
  have hA' : A.length = st := by rw [hA]; exact List.length_take_of_le (Nat.le_trans hse hen)
  have hF' : F.length = k1 := by
    rw [hF]; exact List.length_take_of_le (by rw [List.length_drop]; exact Nat.le_trans h1 (Nat.sub_le_sub_right hen st))
  have hM' : M.length = en - k2 - (st + k1) := by
    rw [hM]; exact List.length_take_of_le (by
      rw [List.length_drop]; exact Nat.sub_le_sub_right (Nat.le_trans (Nat.sub_le en k2) hen) _)
  have hB' : B.length = k2 := by
    rw [hB, List.length_drop, List.length_take_of_le hen, Nat.sub_sub_self (Nat.le_trans h2 (Nat.sub_le _ _))]
  rw [hA', hF', hM', hB']
  clear hA hF hM hB hA' hF' hM' hB' hen
  exact ⟨by omega, rfl, rfl, rfl, by omega, by omega⟩

theorem drain_pieces (xs : List Elem) {st en : Nat} (hse : st ≤ en) (hen : en ≤ xs.length) (take back k1 k2 : Nat)
    (he1 : min take (en - st) = k1) (he2 : min back (en - (st + k1)) = k2) :
    ∃ A F M B T, xs = A ++ (F ++ (M ++ (B ++ T))) ∧ A.length = st ∧ A.length + (F.length + (M.length + B.length)) = en ∧
      F.length = min take (F.length + (M.length + B.length)) ∧ B.length = min back (M.length + B.length) ∧
      A = xs.take st ∧ F = (xs.drop st).take k1 ∧ M = (xs.drop (st + k1)).take (en - k2 - (st + k1)) ∧
      B = (xs.take en).drop (en - k2) ∧ T = xs.drop en := by
  obtain ⟨hle, hA, hF, hB, hMB, hFMB⟩ := drain_split_lengths xs st en k1 k2 (he1 ▸ Nat.min_le_right _ _) (he2 ▸ Nat.min_le_right _ _)
    hse hen rfl rfl rfl rfl
  exact ⟨_, _, _, _, _, drain_split xs st en k1 k2 hle, hA, by rw [hFMB, hA, Nat.add_sub_cancel' hse], by rw [hFMB, hF, he1],
    by rw [hMB, hB, he2], rfl, rfl, rfl, rfl, rfl⟩

/-- `kd` = how much of `M` the destructor dropped; `fin` = `Drain::drop` ran to its end.  When the `Drain` was
forgotten or its destructor unwound the vector keeps only `A` (the rest is leaked, never duplicated). -/
theorem drainOp_run {c : Cfg} {v : VS} {A F M B T : List Elem} (h : RepB c v (A ++ (F ++ (M ++ (B ++ T))))) {s e : Bd}
    (hok : DrainOK c v.len s e A.length (A.length + (F.length + (M.length + B.length)))) (take back : Nat) (forget : Bool) (w : W)
    (hF : F.length = min take (F.length + (M.length + B.length))) (hB : B.length = min back (M.length + B.length)) :
    ∃ (v' : VS) (w' : W) (r : Option (List Elem)) (kd : Nat) (fin : Bool), drainOp c v s e take back forget w = (v', w', r) ∧
      kd ≤ M.length ∧ w'.evs = w.evs ++ movedEvs (F ++ B.reverse) ++ dropEvs c (M.take kd) ∧ w'.bad = w.bad ∧
      w'.nextId = w.nextId ∧ (∀ m, r = some m → m = F ++ B.reverse) ∧
      (forget = true → kd = 0 ∧ fin = false ∧ r = some (F ++ B.reverse)) ∧
      (fin = true → kd = M.length ∧ r = some (F ++ B.reverse)) ∧ (forget = false → fin = false → r = none) ∧
      (c.dropPanicAt = none → forget = false → fin = true) ∧
      RepB c v' (if fin then A ++ T else A) := by
  rcases v with ⟨sl, l, cp⟩
  obtain ⟨rest, hs, hl⟩ := h.toRep.nf
  have hl' : l - (A.length + (F.length + (M.length + B.length))) = T.length := by rw [hl]; simp; omega
  obtain rfl : sl = A.map some ++ ((F ++ (M ++ B)).map some ++ (T.map some ++ rest)) := by simpa using hs
  -- what the vector keeps when the tail is not moved back
  have hrepA := h.reslot (ys := A) (rest' := _) rfl (by simp)
  rw [drainOp_unfold c _ s e take back forget w _ _ (drainNew_ok hok)]
  generalize hen : A.length + (F.length + (M.length + B.length)) = en at hl' ⊢
  obtain ⟨hf, hb, hrr⟩ := iter_run ⟨_, A.length, cp⟩ (A.map some) (T.map some ++ rest) F M B take back A.length en (l - en) en w
    rfl (List.length_map _).symm hen.symm hF hB
  simp only [hf, hb]
  cases forget with
  | true =>
    exact ⟨_, _, _, 0, false, rfl, Nat.zero_le _, by simp [dropEvs], rfl, rfl, fun m hm => (Option.some.inj hm).symm,
      fun _ => ⟨rfl, rfl, rfl⟩, nofun, nofun, nofun, hrepA⟩
  | false =>
    simp only [Bool.false_eq_true, ↓reduceIte, Drain.drop_unfold, hrr]
    obtain ⟨kd, w3, r, hde, hkd, hev3, hb3, hn3, hr1, hr2, hr3⟩ := dropEach_spec c M { w with evs := w.evs ++ movedEvs (F ++ B.reverse) }
    simp only [hde]
    cases r with
    | some lft =>
      exact ⟨_, _, _, kd, false, rfl, hkd, hev3, hb3, hn3, nofun, nofun, nofun, fun _ _ => rfl, (fun hnp _ => nomatch hr3 hnp), hrepA⟩
    | none =>
      obtain ⟨J, hJ, hmb⟩ := moveBack_run c ⟨_, A.length, cp⟩ (A.map some) ((F ++ (M ++ B)).map some) (T.map some) rest
        ⟨en, l - en, A.length + F.length, en - B.length⟩ w3 rfl (List.length_map _).symm (by simp [← hen]) (by simp [hl'])
      simp only [hmb]
      exact ⟨_, _, _, kd, true, rfl, hkd, hev3, hb3, hn3, fun m hm => (Option.some.inj hm).symm, nofun, fun _ => ⟨hr1 rfl, rfl⟩,
        nofun, fun _ _ => rfl,
        by simpa using h.reslot (ys := A ++ T) (rest' := J ++ rest) (by simp at hJ ⊢; omega) (by simp; omega)⟩

/-- `drain(st..en)` with `take` × `next`, `back` × `next_back`, then dropped or forgotten; `kd`, `fin` as in
`drainOp_run` -/
theorem drainOp_spec {c : Cfg} {v : VS} {xs : List Elem} (h : RepB c v xs) {s e : Bd} {st en : Nat}
    (hok : DrainOK c xs.length s e st en) (take back : Nat) (forget : Bool) (w : W) :
    let k1 := min take (en - st)
    let k2 := min back (en - (st + k1))
    let front := (xs.drop st).take k1
    let backs := ((xs.take en).drop (en - k2)).reverse
    let left := (xs.drop (st + k1)).take (en - k2 - (st + k1))
    ∃ (v' : VS) (w' : W) (r : Option (List Elem)) (kd : Nat) (fin : Bool), drainOp c v s e take back forget w = (v', w', r) ∧
      kd ≤ left.length ∧ w'.evs = w.evs ++ movedEvs (front ++ backs) ++ dropEvs c (left.take kd) ∧ w'.bad = w.bad ∧
      w'.nextId = w.nextId ∧ (∀ m, r = some m → m = front ++ backs) ∧
      (forget = true → kd = 0 ∧ fin = false ∧ r = some (front ++ backs)) ∧
      (fin = true → kd = left.length ∧ r = some (front ++ backs)) ∧ (forget = false → fin = false → r = none) ∧
      (c.dropPanicAt = none → forget = false → fin = true) ∧
      RepB c v' (if fin then xs.take st ++ xs.drop en else xs.take st) := by
  dsimp only
  obtain ⟨A, F, M, B, T, hx, hA, hen, hF, hB, rfl, rfl, rfl, rfl, rfl⟩ := drain_pieces xs hok.2.2.1 hok.2.2.2 take back _ _ rfl rfl
  exact drainOp_run (hx ▸ h) (by rw [hen, hA, h.len]; exact hok) take back forget w hF hB

theorem drainOp_own {c : Cfg} {v : VS} {xs : List Elem} {ins held : List Nat} (hd : c.needsDrop = true)
    (h : RepB c v xs) (s e : Bd) (take back : Nat) (forget : Bool) (w : W) (ho : Own ins xs w.evs held) :
    ∃ ys lk, RepB c (drainOp c v s e take back forget w).1 ys ∧
      Own ins ys (drainOp c v s e take back forget w).2.1.evs (lk ++ held) ∧
      (forget = false → c.dropPanicAt = none → lk = []) := by
  by_cases hok : ∃ st en, DrainOK c v.len s e st en
  · obtain ⟨st, en, hok⟩ := hok
    obtain ⟨A, F, M, B, T, rfl, hA, hen, hF, hB, -⟩ :=
      drain_pieces xs hok.2.2.1 (h.len ▸ hok.2.2.2) take back _ _ rfl rfl
    obtain ⟨v', w', r, kd, fin, hrun, hkd, hev, _, _, _, _, hfin, _, hnp, hrep⟩ :=
      drainOp_run h (by rw [hen, hA]; exact hok) take back forget w hF hB
    rw [hrun]
    have hD : evDrops w'.evs = evDrops w.evs ++ ids (M.take kd) := by simp [hev, evDrops_dropEvs c hd, evDrops_movedEvs]
    have hM : evMoved w'.evs = evMoved w.evs ++ ids (F ++ B.reverse) := by simp [hev, evMoved_dropEvs, evMoved_movedEvs]
    have hMs := fun a => congrArg (List.count a) (List.take_append_drop kd M)
    cases fin with
    | true =>
      refine ⟨_, [], hrep, ho.split _ _ _ [] ?_ hD hM, fun _ _ => rfl⟩
      rw [(hfin rfl).1, List.take_length, List.perm_iff_count]; intro a
      simp only [↓reduceIte, List.count_append, List.count_reverse, List.count_nil]; omega
    | false =>
      refine ⟨_, ids (M.drop kd ++ T), hrep, ho.split _ _ _ _ ?_ hD hM, fun hf hn => by cases hnp hn hf⟩
      rw [List.perm_iff_count]; intro a
      have := hMs a
      simp only [Bool.false_eq_true, ↓reduceIte, List.count_append, List.count_reverse] at this ⊢; omega
  · rw [drainOp_panics hok]
    exact ⟨xs, [], h, by simpa using ho, fun _ _ => rfl⟩

theorem intoIterOp_unfold (c : Cfg) (v : VS) (take back : Nat) (forget : Bool) (w : W) :
    intoIterOp c v take back forget w =
      let a := (Drain.mk v.len 0 0 v.len).takeFront v take w
      let b := a.1.takeBack v back a.2.1
      if forget then (b.2.1, some (a.2.2 ++ b.2.2))
      else
        let rr := readRange v b.1.lo b.1.hi b.2.1
        let de := dropEach c rr.1 rr.2
        (de.1, match de.2 with | some _ => none | none => some (a.2.2 ++ b.2.2)) := by
  unfold intoIterOp
  simp only
  split
  · rfl
  · generalize dropEach c _ _ = de
    rcases de with ⟨w2, r⟩
    cases r <;> rfl

theorem intoIterOp_run {c : Cfg} {v : VS} {F M B : List Elem} (h : RepB c v (F ++ (M ++ B))) (take back : Nat) (forget : Bool) (w : W)
    (hF : F.length = min take (F.length + (M.length + B.length))) (hB : B.length = min back (M.length + B.length)) :
    ∃ (w' : W) (r : Option (List Elem)) (kd : Nat), intoIterOp c v take back forget w = (w', r) ∧ kd ≤ M.length ∧
      w'.evs = w.evs ++ movedEvs (F ++ B.reverse) ++ dropEvs c (M.take kd) ∧ w'.bad = w.bad ∧
      (∀ m, r = some m → m = F ++ B.reverse) ∧ (forget = true → kd = 0 ∧ r ≠ none) ∧
      (c.dropPanicAt = none → forget = false → r ≠ none ∧ kd = M.length) := by
  rcases v with ⟨sl, l, cp⟩
  obtain ⟨rest, rfl, hl⟩ := h.toRep.nf
  rw [intoIterOp_unfold]
  obtain ⟨hf, hb, hrr⟩ := iter_run ⟨(F ++ (M ++ B)).map some ++ rest, l, cp⟩ [] rest F M B take back 0 l 0 l w rfl rfl (by simpa using hl) hF hB
  simp only [hf, hb]
  cases forget with
  | true =>
    exact ⟨_, _, 0, rfl, Nat.zero_le _, by simp [dropEvs], rfl, fun m hm => (Option.some.inj hm).symm, fun _ => ⟨rfl, nofun⟩, nofun⟩
  | false =>
    simp only [Bool.false_eq_true, ↓reduceIte, hrr]
    obtain ⟨kd, w3, r, hde, hkd, hev3, hb3, _, hr1, _, hr3⟩ := dropEach_spec c M { w with evs := w.evs ++ movedEvs (F ++ B.reverse) }
    simp only [hde]
    refine ⟨w3, _, kd, rfl, hkd, hev3, hb3, ?_, False.elim, ?_⟩
    · intro m hm
      cases r with
      | some _ => simp at hm
      | none => simpa using hm.symm
    · intro hnp _
      have := hr3 hnp
      subst this
      exact ⟨by simp, hr1 rfl⟩

theorem intoIterOp_spec {c : Cfg} {v : VS} {xs : List Elem} (h : RepB c v xs) (take back : Nat) (forget : Bool) (w : W) :
    ∃ (w' : W) (r : Option (List Elem)) (kd : Nat), intoIterOp c v take back forget w = (w', r) ∧
      kd ≤ ((xs.drop (min take xs.length)).take (xs.length - min back (xs.length - min take xs.length) - min take xs.length)).length ∧
      w'.evs = w.evs ++ movedEvs (xs.take (min take xs.length) ++ (xs.drop (xs.length - min back (xs.length - min take xs.length))).reverse) ++
        dropEvs c (((xs.drop (min take xs.length)).take (xs.length - min back (xs.length - min take xs.length) - min take xs.length)).take kd) ∧
      w'.bad = w.bad ∧
      (∀ m, r = some m → m = xs.take (min take xs.length) ++ (xs.drop (xs.length - min back (xs.length - min take xs.length))).reverse) ∧
      (forget = true → kd = 0 ∧ r ≠ none) ∧
      (c.dropPanicAt = none → forget = false → r ≠ none ∧
        kd = ((xs.drop (min take xs.length)).take (xs.length - min back (xs.length - min take xs.length) - min take xs.length)).length) := by
  -- `into_iter` is a drain of the whole vector
  obtain ⟨A, F, M, B, T, hx, -, -, hF, hB, rfl, rfl, rfl, rfl, rfl⟩ := drain_pieces xs (Nat.zero_le _) (Nat.le_refl _) take back _ _ rfl rfl
  simp only [List.take_zero, List.drop_zero, List.take_length, List.drop_length, Nat.zero_add, Nat.sub_zero, List.nil_append,
    List.append_nil] at hx hF hB
  exact intoIterOp_run (hx ▸ h) take back forget w hF hB

theorem intoIterOp_own {c : Cfg} {v : VS} {xs : List Elem} {ins held : List Nat} (hd : c.needsDrop = true)
    (h : RepB c v xs) (take back : Nat) (forget : Bool) (w : W) (ho : Own ins xs w.evs held) :
    ∃ lk, Own ins [] (intoIterOp c v take back forget w).1.evs (lk ++ held) ∧
      (forget = false → c.dropPanicAt = none → lk = []) := by
  obtain ⟨A, F, M, B, T, rfl, hA, hen, hF, hB, -⟩ := drain_pieces xs (Nat.zero_le _) (Nat.le_refl _) take back _ _ rfl rfl
  obtain rfl := List.eq_nil_of_length_eq_zero hA
  obtain rfl : T = [] := by simpa using hen
  rw [List.nil_append, List.append_nil] at h ho
  obtain ⟨w', r, kd, hrun, hkd, hev, _, _, _, hnp⟩ := intoIterOp_run h take back forget w hF hB
  rw [hrun]
  refine ⟨ids (M.drop kd), ho.split [] (M.take kd) (F ++ B.reverse) _ ?_
    (by simp [hev, evDrops_dropEvs c hd, evDrops_movedEvs]) (by simp [hev, evMoved_dropEvs, evMoved_movedEvs]), ?_⟩
  · rw [List.perm_iff_count]; intro a
    have := congrArg (List.count a) (List.take_append_drop kd M)
    simp only [List.count_append, List.count_reverse, List.count_nil] at this ⊢; omega
  · intro hf hn
    rw [(hnp hn hf).2, List.drop_length]; rfl

theorem moveBack_eq (c : Cfg) (v : VS) (d : Drain) (w : W) :
    d.moveBack c v w =
      if d.tailLen > 0 then
        (if d.tailStart ≠ v.len then ({ (v.copy c d.tailStart v.len d.tailLen w).1 with len := v.len + d.tailLen }, (v.copy c d.tailStart v.len d.tailLen w).2)
         else ({ v with len := v.len + d.tailLen }, w))
      else (v, w) := by
  unfold Drain.moveBack
  by_cases h1 : d.tailLen > 0
  · rw [if_pos h1, if_pos h1]
    by_cases h2 : d.tailStart ≠ v.len
    · rw [if_pos h2]
      show (let r := (if d.tailStart ≠ v.len then v.copy c d.tailStart v.len d.tailLen w else (v, w)); ({ r.1 with len := v.len + d.tailLen }, r.2)) = _
      rw [if_pos h2]
    · rw [if_neg h2]
      show (let r := (if d.tailStart ≠ v.len then v.copy c d.tailStart v.len d.tailLen w else (v, w)); ({ r.1 with len := v.len + d.tailLen }, r.2)) = _
      rw [if_neg h2]
  · rw [if_neg h1, if_neg h1]

end Bump.V
